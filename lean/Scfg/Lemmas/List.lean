import Scfg.WF
import Scfg.Model.Queries
import Scfg.Spec.RenderSpec
/-!
# Lists as the model uses them: sets, insertion-ordered dicts, positions, monadic folds

Facts that property files of several properties need, each stated once. Nothing here speaks of a
hierarchy (`Scfg/Lemmas/Hier.lean` does).

* Python `set`s are lists: `mem`, `dedup`, `sortNames`, and the Boolean tests `nodupB` / `nodupL`.
* A Python `dict` is an insertion-ordered list; `dict[k] = v` is `dictSet`: overwrite in place or append.
  `putIn`, `tblSet`, `SetMap.set`, `NameGen.setCtr` and `jumpSet` are `dictSet` by `rfl`.
* `sameMultiset` compares two lists as multisets.
* `pending` is the fuel measure of the work-list loops: the weight of the items whose key has not been seen.
* `Val` is the dict of control variables, kept sorted: lookup after `set` and `erase`.
* `idxOf` is `tuple.index`.
* Loops of the code are `List.foldlM` in `Except`; `foldlM_inv`, `foldlM_ok` and `foldlM_mem` are the three
  ways such a loop is reasoned about (an invariant; it answers; what it has collected). `bind_ok`, `mapM_ok`,
  `foldlM_ok` say that a computation answers; `bind_eq_ok`, `ite_bind_eq_ok` open a `do` block that has answered,
  and `of_ok` reads the specification of an answer off "it answers with something that meets the specification".
-/
namespace Scfg
open Scfg.Model

-- `simp` closes `(a == b) = true` for names through an instance search that costs far more than the fact
theorem name_beq {a b : Name} (h : a = b) : (a == b) = true := decide_eq_true h

/-! ## Sets as lists -/

theorem mem_iff {xs : List Name} {x : Name} : mem xs x = true ↔ x ∈ xs := List.contains_iff_mem

theorem mem_eq_false_iff {xs : List Name} {x : Name} : mem xs x = false ↔ x ∉ xs := by
  rw [← mem_iff, Bool.not_eq_true]

theorem mem_dedup {xs : List Name} {x : Name} : x ∈ dedup xs ↔ x ∈ xs := by
  induction xs with
  | nil => exact Iff.rfl
  | cons y ys ih =>
    by_cases e : x = y
    · simp [dedup, e]
    · simp [dedup, ih, e]

theorem nodup_dedup (xs : List Name) : (dedup xs).Nodup := by
  induction xs with
  | nil => exact List.nodup_nil
  | cons y ys ih =>
    refine List.nodup_cons.mpr ⟨?_, ih.sublist List.filter_sublist⟩
    simp

/-- pigeonhole: a duplicate-free list contained in a list of at most its length has all of that list's members -/
theorem subset_of_nodup_of_length_le {α : Type} [DecidableEq α] {a b : List α} (ha : a.Nodup)
    (hsub : a ⊆ b) (hl : b.length ≤ a.length) : b ⊆ a := by
  intro x hx
  refine Decidable.byContradiction fun hxa => ?_
  -- otherwise `x :: a` is duplicate-free, inside `b`, and longer
  have := (List.nodup_cons.mpr ⟨hxa, ha⟩).length_le_of_subset (l₂ := b) fun y hy =>
    (List.mem_cons.mp hy).elim (· ▸ hx) fun h => hsub h
  rw [List.length_cons] at this
  omega

theorem find?_unique {α : Type} {p : α → Bool} {l : List α} {x : α} (hx : x ∈ l) (hp : p x = true)
    (hu : ∀ y ∈ l, p y = true → y = x) : l.find? p = some x := by
  cases h : l.find? p with
  | none => exact absurd hp (by simpa using List.find?_eq_none.mp h x hx)
  | some y => rw [hu y (List.mem_of_find?_eq_some h) (List.find?_some h)]

theorem eq_of_key {α κ : Type} {key : α → κ} {l : List α} (hk : (l.map key).Nodup) {a b : α} (ha : a ∈ l)
    (hb : b ∈ l) (h : key a = key b) : a = b := by
  have hp := List.pairwise_map.mp hk
  exact List.Pairwise.forall_of_forall_of_flip (R := fun a b => key a = key b → a = b) (fun _ _ _ => rfl)
    (hp.imp fun hne h => absurd h hne) (hp.imp fun hne h => absurd h.symm hne) ha hb h

theorem find?_key {α κ : Type} [BEq κ] [LawfulBEq κ] {key : α → κ} {l : List α} (hk : (l.map key).Nodup)
    {e : α} (he : e ∈ l) : l.find? (fun x => key x == key e) = some e :=
  find?_unique he (beq_self_eq_true _) fun _ hy h => eq_of_key hk hy he (eq_of_beq h)

theorem find?_beq_some {α κ : Type} [BEq κ] [LawfulBEq κ] {key : α → κ} {k : κ} {l : List α} {a : α}
    (h : l.find? (key · == k) = some a) : a ∈ l ∧ key a = k :=
  ⟨List.mem_of_find?_eq_some h, eq_of_beq (List.find?_some (p := fun x => key x == k) h)⟩

theorem nodup_reverse {α : Type} {l : List α} : l.reverse.Nodup ↔ l.Nodup :=
  List.pairwise_reverse.trans ⟨fun h => h.imp Ne.symm, fun h => h.imp Ne.symm⟩

theorem insertSorted_perm (x : Name) (ys : List Name) : (insertSorted x ys).Perm (x :: ys) := by
  induction ys with
  | nil => simp [insertSorted]
  | cons y ys ih =>
    simp only [insertSorted]
    split
    · exact List.Perm.refl _
    · exact (List.Perm.cons y ih).trans (List.Perm.swap x y ys)

theorem sortNames_perm_self (xs : List Name) : (sortNames xs).Perm xs := by
  induction xs with
  | nil => simp [sortNames]
  | cons x xs ih =>
    exact (insertSorted_perm x _).trans (List.Perm.cons x ih)

theorem mem_sortNames {xs : List Name} {x : Name} : x ∈ sortNames xs ↔ x ∈ xs :=
  (sortNames_perm_self xs).mem_iff

theorem nodupB_iff (xs : List Name) : nodupB xs = true ↔ xs.Nodup := by
  induction xs with
  | nil => simp [nodupB]
  | cons x xs ih => simp [nodupB, ih]

theorem nodupL_iff (xs : List Name) : nodupL xs = true ↔ xs.Nodup := by
  induction xs with
  | nil => simp [nodupL]
  | cons x xs ih => simp [nodupL, ih]

/-! ## Multisets as lists: `Spec.sameMultiset`, the decider of the census (C10) and of the drawing (C17) -/

open Scfg.Spec in
theorem sameMultiset_iff {α : Type} [BEq α] [LawfulBEq α] {xs ys : List α} :
    sameMultiset xs ys = true ↔ xs.length = ys.length ∧ ∀ a ∈ xs, xs.count a = ys.count a := by
  simp only [sameMultiset, Bool.and_eq_true, beq_iff_eq, List.all_eq_true]

open Scfg.Spec in
theorem perm_of_sameMultiset {α : Type} [BEq α] [LawfulBEq α] {xs ys : List α}
    (h : sameMultiset xs ys = true) : xs.Perm ys := by
  induction xs generalizing ys with
  | nil => rw [List.eq_nil_of_length_eq_zero (sameMultiset_iff.mp h).1.symm]
  | cons a t ih =>
    obtain ⟨hl, hc⟩ := sameMultiset_iff.mp h
    have ha : a ∈ ys := List.count_pos_iff.mp (by rw [← hc a List.mem_cons_self]; simp)
    -- with one `a` taken out of both lists the test still passes
    refine List.cons_perm_iff_perm_erase.mpr ⟨ha, ih (sameMultiset_iff.mpr ⟨?_, fun c hct => ?_⟩)⟩
    · rw [List.length_erase_of_mem ha, ← hl]; rfl
    · rw [List.count_erase, ← hc c (List.mem_cons_of_mem _ hct), List.count_cons]
      exact (Nat.add_sub_cancel ..).symm

/-! ## Sums (fuel measures) -/

theorem sum_map_le {α : Type} (f g : α → Nat) (l : List α) (h : ∀ x ∈ l, f x ≤ g x) :
    (l.map f).sum ≤ (l.map g).sum := by
  induction l with
  | nil => exact Nat.le_refl _
  | cons a t ih =>
    have h1 := h a (by simp)
    have h2 := ih fun x hx => h x (by simp [hx])
    simp only [List.map_cons, List.sum_cons]
    omega

theorem sum_map_add_le {α : Type} (f g : α → Nat) (l : List α) (h : ∀ x ∈ l, f x ≤ g x)
    {b : α} (hb : b ∈ l) {k : Nat} (hk : f b + k ≤ g b) : (l.map f).sum + k ≤ (l.map g).sum := by
  obtain ⟨l₁, l₂, rfl⟩ := List.append_of_mem hb
  have h1 := sum_map_le f g l₁ fun x hx => h x (by simp [hx])
  have h2 := sum_map_le f g l₂ fun x hx => h x (by simp [hx])
  simp only [List.map_append, List.map_cons, List.sum_append_nat, List.sum_cons]
  omega

/-- The total weight of the items of `L` whose key has not been seen: what a work-list loop still has to
    spend on them. Marking a key never raises it, and marking the key of an item lowers it by the item's
    weight; this is the variable part of the fuel bound of every such loop. -/
def pending {α κ : Type} [BEq κ] (key : α → κ) (w : α → Nat) (seen : List κ) (L : List α) : Nat :=
  (L.map fun a => if seen.contains (key a) then 0 else w a).sum

section Pending
variable {α κ : Type} [BEq κ] (key : α → κ) (w : α → Nat)

theorem pending_term_le (seen : List κ) (n : κ) (a : α) :
    (if (n :: seen).contains (key a) then 0 else w a) ≤ if seen.contains (key a) then 0 else w a := by
  rw [List.contains_cons]
  cases seen.contains (key a) <;> cases key a == n <;> simp

theorem pending_mono (seen : List κ) (n : κ) (L : List α) :
    pending key w (n :: seen) L ≤ pending key w seen L :=
  sum_map_le _ _ L fun a _ => pending_term_le key w seen n a

theorem pending_take [LawfulBEq κ] {seen : List κ} {n : κ} (hn : seen.contains n = false) {b : α}
    {L : List α} (hb : b ∈ L) (hk : key b = n) :
    pending key w (n :: seen) L + w b ≤ pending key w seen L := by
  refine sum_map_add_le _ _ L (fun a _ => pending_term_le key w seen n a) hb ?_
  rw [hk, List.contains_cons, beq_self_eq_true, hn]
  exact Nat.le_of_eq (Nat.zero_add _)

theorem pending_le (seen : List κ) {k : Nat} : ∀ {L : List α}, (∀ a ∈ L, w a ≤ k) →
    pending key w seen L ≤ k * L.length
  | [], _ => Nat.le_refl _
  | a :: L, h => by
    have h1 := pending_le seen (L := L) fun x hx => h x (List.mem_cons_of_mem _ hx)
    have h2 := h a List.mem_cons_self
    simp only [pending, List.map_cons, List.sum_cons, List.length_cons, Nat.mul_succ] at h1 ⊢
    split <;> omega

/-- with nothing seen, what is pending is within the sum the models' fuel expressions fold up -/
theorem pending_nil_le {u : α → Nat} (k : Nat) (h : ∀ a, w a ≤ u a + k) : ∀ (L : List α) (n : Nat),
    n + pending key w [] L ≤ L.foldl (fun n x => n + u x) n + k * L.length
  | [], _ => Nat.le_refl _
  | a :: L, n => by
    have h1 := pending_nil_le k h L (n + u a)
    have h2 := h a
    rw [show pending key w [] (a :: L) = w a + pending key w [] L from rfl, List.foldl_cons,
      List.length_cons, Nat.mul_succ]
    omega

end Pending

/-! ## `dict[key] = v` and `dict.pop(key)` on an insertion-ordered list -/

/-- Overwrite in place the entries `s` recognises (those with `v`'s key), or append `v`. -/
def dictSet {α : Type} (s : α → Bool) (v : α) (l : List α) : List α :=
  if l.any s then l.map (fun x => if s x then v else x) else l ++ [v]

theorem find?_dictSet_same {α : Type} {q : α → Bool} {v : α} (l : List α) (hv : q v = true) :
    (dictSet q v l).find? q = some v := by
  by_cases h : l.any q = true
  · obtain ⟨x, hx, hqx⟩ := List.any_eq_true.mp h
    have hf : (q ∘ fun x => if q x then v else x) = q := by
      funext x
      by_cases hx : q x = true
      · exact (congrArg q (if_pos hx)).trans (hv.trans hx.symm)
      · exact congrArg q (if_neg hx)
    rw [dictSet, if_pos h, List.find?_map, hf]
    cases hy : l.find? q with
    | none => exact absurd hqx (List.find?_eq_none.mp hy x hx)
    | some y => exact congrArg some (if_pos (List.find?_some hy))
  · have hn : l.find? q = none :=
      List.find?_eq_none.mpr fun x hx hqx => h (List.any_eq_true.mpr ⟨x, hx, hqx⟩)
    rw [dictSet, if_neg h, List.find?_append, hn, List.find?_singleton, hv]
    rfl

theorem find?_dictSet_other {α : Type} {s q : α → Bool} {v : α} (l : List α) (hv : q v = false)
    (hs : ∀ x, s x = true → q x = false) : (dictSet s v l).find? q = l.find? q := by
  by_cases h : l.any s = true
  · have hf : (q ∘ fun x => if s x then v else x) = q := by
      funext x
      by_cases hx : s x = true
      · exact (congrArg q (if_pos hx)).trans (hv.trans (hs x hx).symm)
      · exact congrArg q (if_neg hx)
    rw [dictSet, if_pos h, List.find?_map, hf]
    cases hy : l.find? q with
    | none => rfl
    | some y =>
      have hsy : ¬s y = true := fun h => Bool.false_ne_true ((hs y h).symm.trans (List.find?_some hy))
      exact congrArg some (if_neg hsy)
  · rw [dictSet, if_neg h, List.find?_append, List.find?_singleton, hv]
    exact Option.or_none

/-- the two laws together for a dict of pairs: `(d[k] = v)[k']` -/
theorem find?_dictSet_key {κ ν : Type} [DecidableEq κ] (l : List (κ × ν)) (k k' : κ) (v : ν) :
    (dictSet (·.1 == k) (k, v) l).find? (·.1 == k') =
      if k' = k then some (k, v) else l.find? (·.1 == k') := by
  by_cases h : k' = k
  · rw [if_pos h, h, find?_dictSet_same l (decide_eq_true rfl)]
  · have hk : (k == k') = false := decide_eq_false fun e => h e.symm
    rw [if_neg h, find?_dictSet_other (q := (·.1 == k')) l hk fun x hx => by
      rw [show x.1 = k from of_decide_eq_true hx]; exact hk]

theorem mem_dictSet {α : Type} {s : α → Bool} {v x : α} {l : List α} (h : x ∈ dictSet s v l) :
    x ∈ l ∨ x = v := by
  by_cases ha : l.any s = true
  · rw [dictSet, if_pos ha] at h
    obtain ⟨y, hy, hxy⟩ := List.mem_map.mp h
    by_cases hy' : s y = true
    · exact Or.inr (hxy.symm.trans (if_pos hy'))
    · exact Or.inl (hxy.symm.trans (if_neg hy') ▸ hy)
  · rw [dictSet, if_neg ha, List.mem_append, List.mem_singleton] at h
    exact h

theorem find?_filter_same {α : Type} {s : α → Bool} (l : List α) :
    (l.filter fun x => !s x).find? s = none := by
  rw [List.find?_eq_none]
  intro x hx
  simpa using (List.mem_filter.mp hx).2

theorem find?_filter_other {α : Type} {s q : α → Bool} (l : List α)
    (hs : ∀ x, q x = true → s x = false) : (l.filter fun x => !s x).find? q = l.find? q := by
  rw [List.find?_filter]
  congr 1
  funext x
  cases hq : q x
  · simp
  · simp [hs x hq]

/-! ## Valuations: `Val`, the dict of control variables kept sorted by name -/

theorem Val.get?_cons (z : Name) (j : Int) (r : Val) (y : Name) :
    Val.get? ((z, j) :: r) y = if z = y then some j else Val.get? r y := by
  simp only [Val.get?, List.find?_cons]
  by_cases h : z = y
  · simp [h]
  · rw [if_neg h, beq_false_of_ne h]

theorem Val.get?_set (v : Val) (x y : Name) (i : Int) :
    (v.set x i).get? y = if y = x then some i else v.get? y := by
  induction v with
  | nil => rw [Val.set, Val.get?_cons]; simp only [eq_comm (a := x)]
  | cons p r ih =>
    obtain ⟨z, j⟩ := p
    rw [Val.set]
    by_cases hxz : x = z
    · subst hxz
      simp only [beq_self_eq_true, if_true, Val.get?_cons, eq_comm (a := x)]
      split <;> rfl
    · rw [if_neg (by simpa using hxz)]
      split
      · simp only [Val.get?_cons, eq_comm (a := x)]
      · simp only [Val.get?_cons, ih]
        by_cases hzy : z = y
        · rw [if_pos hzy, if_pos hzy, if_neg fun e : y = x => hxz (e.symm.trans hzy.symm)]
        · rw [if_neg hzy, if_neg hzy]

theorem Val.get?_erase (v : Val) (x y : Name) :
    (v.erase x).get? y = if y = x then none else v.get? y := by
  simp only [Val.erase, Val.get?, List.find?_filter]
  by_cases h : y = x
  · subst h
    rw [if_pos rfl, List.find?_eq_none.mpr (by simp), Option.map_none]
  · rw [if_neg h]
    congr 2
    funext p
    by_cases hp : p.1 = y
    · simp [hp, h]
    · simp [hp]

/-! ## Positions -/

theorem idxOf_eq_none {xs : List Name} {x : Name} : idxOf xs x = none ↔ x ∉ xs := by
  unfold idxOf
  simp only [ite_eq_right_iff, reduceCtorEq, imp_false, List.findIdx_lt_length, beq_iff_eq,
    exists_eq_right]

theorem idxOf_of_mem {xs : List Name} {x : Name} (h : x ∈ xs) : ∃ i, idxOf xs x = some i :=
  Option.ne_none_iff_exists'.mp fun e => idxOf_eq_none.mp e h

theorem idxOf_some {xs : List Name} {x : Name} {i : Nat} (h : idxOf xs x = some i) :
    ∃ hi : i < xs.length, xs[i] = x := by
  unfold idxOf at h
  simp only at h
  split at h
  · next hlt =>
    simp only [Option.some.injEq] at h
    subst h
    refine ⟨hlt, ?_⟩
    have := List.findIdx_getElem (w := hlt)
    simpa using this
  · simp at h

theorem idxOf_get {xs : List Name} {x : Name} {i : Nat} (h : idxOf xs x = some i) : xs[i]? = some x := by
  obtain ⟨hi, hx⟩ := idxOf_some h
  rw [List.getElem?_eq_getElem hi, hx]

theorem idxOf_split {xs : List Name} {x : Name} {i : Nat} (h : idxOf xs x = some i) :
    ∃ l r, xs = l ++ x :: r ∧ (∀ v, xs.set i v = l ++ v :: r) ∧ xs.eraseIdx i = l ++ r := by
  obtain ⟨hi, hx⟩ := idxOf_some h
  refine ⟨xs.take i, xs.drop (i + 1), ?_, fun v => ?_, List.eraseIdx_eq_take_drop_succ xs i⟩
  · rw [← hx, List.getElem_cons_drop hi, List.take_append_drop]
  · rw [List.set_eq_take_append_cons_drop, if_pos hi]

theorem idxOf_map_inj (f : Name → Name) : ∀ (xs : List Name) (t : Name), t ∈ xs →
    (∀ x ∈ xs, ∀ y ∈ xs, f x = f y → x = y) → idxOf (xs.map f) (f t) = idxOf xs t := by
  intro xs t ht hinj
  have key : ∀ (ys : List Name), (∀ y ∈ ys, y ∈ xs) →
      List.findIdx (· == f t) (ys.map f) = List.findIdx (· == t) ys := by
    intro ys
    induction ys with
    | nil => intro _; rfl
    | cons y ys ih =>
      intro hy
      simp only [List.map_cons, List.findIdx_cons]
      by_cases he : y = t
      · simp [he]
      · have : f y ≠ f t := fun e => he (hinj y (hy y (by simp)) t ht e)
        have h1 : (f y == f t) = false := by simpa using this
        have h2 : (y == t) = false := by simpa using he
        simp only [h1, h2, cond_false]
        rw [ih fun z hz => hy z (List.mem_cons_of_mem _ hz)]
  unfold idxOf
  simp only [List.length_map, key xs (fun y hy => hy)]

/-! ## Loops: `foldlM` in `Except` -/

section Fold
variable {ε α σ : Type}

theorem bind_eq_ok {β γ : Type} {x : Except ε β} {f : β → Except ε γ} {r : γ} (h : x >>= f = .ok r) :
    ∃ a, x = .ok a ∧ f a = .ok r := by
  cases x with
  | error e => cases h
  | ok a => exact ⟨a, rfl, h⟩

theorem of_ok {β : Type} {x : Except ε β} {P : β → Prop} (hx : ∃ a, x = .ok a ∧ P a) {a : β} (h : x = .ok a) :
    P a := by
  obtain ⟨a', h', hP⟩ := hx
  cases h.symm.trans h'
  exact hP

/-- `do let a ← if p then x else y; k a` elaborates to an `if` of two binds -/
theorem ite_bind_eq_ok {β γ : Type} {p : Prop} [Decidable p] {x y : Except ε β}
    {k : β → Except ε γ} {r : γ}
    (h : (if p then x >>= k else y >>= k) = .ok r) : ∃ a, (if p then x else y) = .ok a ∧ k a = .ok r := by
  by_cases hp : p
  · exact if_pos hp ▸ bind_eq_ok ((if_pos hp).symm.trans h)
  · exact if_neg hp ▸ bind_eq_ok ((if_neg hp).symm.trans h)

theorem bind_ok {β γ : Type} {x : Except ε β} {f : β → Except ε γ} (hx : ∃ a, x = .ok a)
    (hf : ∀ a, ∃ b, f a = .ok b) : ∃ b, x >>= f = .ok b := by
  obtain ⟨a, rfl⟩ := hx
  exact hf a

theorem mapM_ok {β : Type} {g : α → Except ε β} : ∀ {xs : List α},
    (∀ x ∈ xs, ∃ y, g x = .ok y) → ∃ ys, xs.mapM g = .ok ys := by
  intro xs
  induction xs with
  | nil => intro _; exact ⟨[], List.mapM_nil⟩
  | cons x xs ih =>
    intro h
    rw [List.mapM_cons]
    exact bind_ok (h x List.mem_cons_self) fun _ =>
      bind_ok (ih fun z hz => h z (List.mem_cons_of_mem _ hz)) fun _ => ⟨_, rfl⟩

theorem foldlM_inv {g : σ → α → Except ε σ} {I : σ → Prop}
    (hg : ∀ acc a acc', I acc → g acc a = .ok acc' → I acc') :
    ∀ (xs : List α) (acc res : σ), I acc → xs.foldlM g acc = .ok res → I res
  | [], _, _, hacc, h => by cases h; exact hacc
  | a :: xs, acc, res, hacc, h => by
    obtain ⟨acc', ha, h⟩ := bind_eq_ok h
    exact foldlM_inv hg xs acc' res (hg _ _ _ hacc ha) h

theorem foldlM_ok {g : σ → α → Except ε σ} {I : σ → Prop}
    (hg : ∀ acc a, I acc → ∃ acc', g acc a = .ok acc' ∧ I acc') :
    ∀ (xs : List α) (acc : σ), I acc → ∃ res, xs.foldlM g acc = .ok res ∧ I res
  | [], acc, hacc => ⟨acc, rfl, hacc⟩
  | a :: xs, acc, hacc => by
    obtain ⟨acc', ha, hacc'⟩ := hg acc a hacc
    obtain ⟨res, hr, hres⟩ := foldlM_ok hg xs acc' hacc'
    exact ⟨res, by rw [List.foldlM_cons, ha]; exact hr, hres⟩

/-- what a collecting loop has collected when it answers -/
theorem foldlM_mem {γ : Type} {g : σ → α → Except ε σ} {m : σ → List γ} {P : α → γ → Prop}
    (hg : ∀ acc a acc', g acc a = .ok acc' → ∀ e, e ∈ m acc' ↔ e ∈ m acc ∨ P a e)
    {xs : List α} {acc res : σ} (h : xs.foldlM g acc = .ok res) (e : γ) :
    e ∈ m res ↔ e ∈ m acc ∨ ∃ a ∈ xs, P a e := by
  induction xs generalizing acc with
  | nil => cases h; simp
  | cons a xs ih =>
    obtain ⟨acc', ha, h⟩ := bind_eq_ok h
    rw [ih h, hg acc a acc' ha e]
    simp only [List.mem_cons, exists_eq_or_imp, or_assoc]

end Fold

end Scfg
