import Scfg.Lemmas.Hier
/-!
# Walks: resolving a name, error-free runs, comparing two walks

What every statement about the walks of `Sem.lean` needs, whatever the property: the one-step equations of
`resolve`; `CleanRun` (no observation of a run is an error); and the comparison of two walks — the frame lemma
`runs_eq_of_sim`, `walkSys H next` (the form `sysName`, `sysRegion` and the walk with explicit fuel all have),
`StSim Q` and `walk_sim`. The namespace is that of `CleanRun`, which the statements of C01, C04, C06 and C14 mention.
-/
namespace Scfg.C04

/-! ## `resolve` -/

section
variable {H : Hier} {n : Name} {x : Blk}

theorem resolve_none (hg : H.get? n = none) (f : Nat) : resolve H (f + 1) n = none := by
  rw [resolve, hg]

theorem resolve_region (hg : H.get? n = some x) (hr : x.isRegion = true) (f : Nat) :
    resolve H (f + 1) n = resolve H f x.header := by
  rw [resolve, hg]
  exact if_pos hr

theorem resolve_block (hg : H.get? n = some x) (hr : x.isRegion = false) (f : Nat) :
    resolve H (f + 1) n = some x := by
  rw [resolve, hg]
  exact if_neg (ne_true_of_eq_false hr)

theorem resolve_block_eq (hg : H.get? n = some x) (hr : x.isRegion = false) {f : Nat} {b : Blk}
    (h : resolve H f n = some b) : b = x := by
  cases f with
  | zero => cases h
  | succ f => exact (Option.some.inj ((resolve_block hg hr f).symm.trans h)).symm

end

theorem resolve_get {H : Hier} : ∀ {f n b}, resolve H f n = some b →
    H.get? b.name = some b ∧ b.isRegion = false := by
  intro f n
  fun_induction resolve H f n with
  | case1 | case2 => intro b h; cases h
  | case3 f n x hx hr ih => exact ih
  | case4 f n x hx hr =>
    intro b h
    cases h
    exact ⟨(get?_mem hx).2 ▸ hx, Bool.not_eq_true _ ▸ hr⟩

theorem resolve_mem (H : Hier) (f : Nat) (n : Name) (b : Blk) (h : resolve H f n = some b) : b ∈ H :=
  (get?_mem (resolve_get h).1).1

theorem resolve_eq_of_name {H : Hier} {f g : Nat} {n m : Name} {x y : Blk}
    (hx : resolve H f n = some x) (hy : resolve H g m = some y) (h : x.name = y.name) : x = y :=
  Option.some.inj ((resolve_get hx).1.symm.trans (h ▸ (resolve_get hy).1))

def _root_.Scfg.WState.isErr : WState → Bool
  | .err _ _ => true
  | _ => false

def CleanRun {σ : Type} (S : Sys σ) (s : σ) : Prop := ∀ ds, ∀ o ∈ run S s ds, o.isErr = false

theorem clean_obs {σ : Type} (S : Sys σ) (s : σ) (h : CleanRun S s) : (S.obs s).isErr = false :=
  h [] _ (by simp [run])

theorem clean_step {σ : Type} (S : Sys σ) (s : σ) (h : CleanRun S s) (d : Nat)
    (hd : d < (S.obs s).arity) : CleanRun S (S.step s d) := by
  intro ds o ho
  exact h (d :: ds) o (by simp [run, hd, ho])

theorem clean_of_runs_eq {α β : Type} {A : Sys α} {B : Sys β} {s : α} {s' : β}
    (h : ∀ ds, run A s ds = run B s' ds) (hc : CleanRun B s') : CleanRun A s := by
  intro ds o ho
  rw [h ds] at ho
  exact hc ds o ho

theorem obs_err_state (H : Hier) (next : Blk → Val → Nat → WState) (s : WState)
    (h : (obsOf H next s).isErr = false) : s.isErr = false := by
  cases s <;> simp_all [obsOf, WState.isErr, Obs.isErr]

/-! ## Comparing walks -/

theorem runs_eq_of_sim {α β : Type} (A : Sys α) (B : Sys β) (P : α → β → Prop)
    (key : ∀ sa sb, P sa sb → CleanRun B sb → A.obs sa = B.obs sb ∧
      ∀ d, d < (B.obs sb).arity → P (A.step sa d) (B.step sb d)) :
    ∀ (ds : List Nat) (sa : α) (sb : β), P sa sb → CleanRun B sb → run A sa ds = run B sb ds := by
  intro ds sa sb hp hc
  refine run_eq_of_closed A B (fun p => P p.1 p.2 ∧ CleanRun B p.2) (fun p hp => (key _ _ hp.1 hp.2).1)
    (fun p hp i hi => ?_) ds sa sb ⟨hp, hc⟩
  obtain ⟨ho, hs⟩ := key _ _ hp.1 hp.2
  rw [ho] at hi
  exact ⟨hs i hi, clean_step _ _ hp.2 i hi⟩

/-- A walk over `H` whose continuation from a block is `next`. `sysName`, `sysRegion` and the walk with
    explicit fuel are of this form. -/
def walkSys (H : Hier) (next : Blk → Val → Nat → WState) : Sys WState where
  obs := obsOf H next
  step := fun s i => match s with
    | .at n val => match H.get? n with
      | none => .err false s!"no-such-block {n}"
      | some b => next b val i
    | s => s

theorem sysName_eq_walkSys (H : Hier) (consume : Bool) :
    sysName H consume = walkSys H (stepName H consume) := rfl

theorem clean_state {H : Hier} {next : Blk → Val → Nat → WState} {s : WState}
    (hc : CleanRun (walkSys H next) s) : s.isErr = false :=
  obs_err_state H next s (clean_obs _ _ hc)

def StSim (Q : Name → Val → Val → Prop) : WState → WState → Prop
  | .at n va, .at m vb => n = m ∧ Q n va vb
  | .halt, .halt => True
  | _, _ => False

theorem StSim.halt_iff {Q : Name → Val → Val → Prop} {r r' : WState} (h : StSim Q r r') :
    r = .halt ↔ r' = .halt := by
  cases r <;> cases r' <;> first | exact False.elim h | exact Iff.rfl | exact ⟨WState.noConfusion, WState.noConfusion⟩

theorem StSim.swap {Q : Name → Val → Val → Prop} {r r' : WState} (h : StSim Q r r') :
    StSim (fun n va vb => Q n vb va) r' r := by
  cases r <;> cases r' <;> try exact h
  obtain ⟨rfl, hq⟩ := h
  exact ⟨rfl, hq⟩

section
variable {H : Hier} {next : Blk → Val → Nat → WState} {n : Name} {val : Val} {b : Blk}

theorem walkSys_obs (hg : H.get? n = some b) :
    (walkSys H next).obs (.at n val) = .blk n (arityIn (next b val) b) := by
  simp only [walkSys, obsOf, hg]

theorem walkSys_step (hg : H.get? n = some b) (d : Nat) :
    (walkSys H next).step (.at n val) d = next b val d := by
  simp only [walkSys, hg]

theorem walkSys_obs_none (hg : H.get? n = none) : ((walkSys H next).obs (.at n val)).arity = 0 := by
  simp only [walkSys, obsOf, hg, Obs.arity]

theorem clean_next (hg : H.get? n = some b) (hc : CleanRun (walkSys H next) (.at n val)) (d : Nat)
    (hd : d < arityIn (next b val) b) : (next b val d).isErr = false := by
  have := clean_state (clean_step _ _ hc d (by rw [walkSys_obs hg]; exact hd))
  rwa [walkSys_step hg] at this

end

/-- Two walks over two hierarchies show the same trace from related states if, at every block, they offer the
    same number of continuations and these are related again. `key` may assume that no continuation of the
    second walk is an error: `CleanRun` provides that (`clean_next`), and `arityIn_sim` consumes it. -/
theorem walk_sim {HA HB : Hier} {nA nB : Blk → Val → Nat → WState} {Q : Name → Val → Val → Prop}
    (key : ∀ n va vb, Q n va vb → (HA.get? n = none ∧ HB.get? n = none) ∨
      ∃ a b, HA.get? n = some a ∧ HB.get? n = some b ∧
        ((∀ d, d < arityIn (nB b vb) b → (nB b vb d).isErr = false) →
          arityIn (nA a va) a = arityIn (nB b vb) b ∧
          ∀ d, d < arityIn (nB b vb) b → StSim Q (nA a va d) (nB b vb d))) :
    ∀ (ds : List Nat) (sa sb : WState), StSim Q sa sb → CleanRun (walkSys HB nB) sb →
      run (walkSys HA nA) sa ds = run (walkSys HB nB) sb ds := by
  refine runs_eq_of_sim _ _ (StSim Q) fun sa sb hq hc => ?_
  cases sa <;> cases sb <;> try exact hq.elim
  · next n va m vb =>
    obtain ⟨rfl, hq⟩ := hq
    rcases key n va vb hq with ⟨h1, h2⟩ | ⟨a, b, h1, h2, h⟩
    · refine ⟨?_, fun d hd => ?_⟩
      · simp only [walkSys, obsOf, h1, h2]
      · rw [walkSys_obs_none h2] at hd
        exact absurd hd (Nat.not_lt_zero d)
    · obtain ⟨har, hst⟩ := h (clean_next h2 hc)
      rw [walkSys_obs h1, walkSys_obs h2, har]
      refine ⟨rfl, fun d hd => ?_⟩
      rw [walkSys_step h1, walkSys_step h2]
      exact hst d hd
  · exact ⟨rfl, fun d hd => absurd hd (Nat.not_lt_zero d)⟩

theorem arityIn_eq (next : Nat → WState) (b : Blk) :
    arityIn next b = if b.jts.length = 1 ∧ next 0 = .halt then 0 else b.jts.length := by
  unfold arityIn
  split
  · next t h => simp [h]
  · next h =>
    rw [if_neg]
    rintro ⟨h1, _⟩
    obtain ⟨t, ht⟩ := List.length_eq_one_iff.mp h1
    exact h t ht

/-- the usual way to meet the hypothesis of `walk_sim`: as many targets, related continuations -/
theorem arityIn_sim {Q : Name → Val → Val → Prop} {nA nB : Nat → WState} {a b : Blk}
    (hlen : a.jts.length = b.jts.length)
    (hstep : ∀ d, (nB d).isErr = false → StSim Q (nA d) (nB d))
    (hclean : ∀ d, d < arityIn nB b → (nB d).isErr = false) :
    arityIn nA a = arityIn nB b ∧ ∀ d, d < arityIn nB b → StSim Q (nA d) (nB d) := by
  refine ⟨?_, fun d hd => hstep d (hclean d hd)⟩
  rw [arityIn_eq, arityIn_eq, hlen]
  by_cases h1 : b.jts.length = 1
  · -- a single target: `nB 0` halts, or is a continuation the block offers
    have hne : (nB 0).isErr = false := by
      by_cases hh : nB 0 = .halt
      · rw [hh]; rfl
      · exact hclean 0 (by rw [arityIn_eq, if_neg fun h => hh h.2, h1]; exact Nat.one_pos)
    simp only [(hstep 0 hne).halt_iff]
  · rw [if_neg fun h => h1 h.1, if_neg fun h => h1 h.1]

theorem StSim.self {Q : Name → Val → Val → Prop} {s : WState} (hs : s.isErr = false)
    (hq : ∀ n v, s = .at n v → Q n v v) : StSim Q s s := by
  cases s with
  | halt => trivial
  | err _ _ => cases hs
  | «at» n v => exact ⟨rfl, hq n v rfl⟩

theorem walk_eq_of_next {H : Hier} {nA nB : Blk → Val → Nat → WState}
    (h : ∀ b ∈ H, ∀ val d, (nB b val d).isErr = false → nA b val d = nB b val d) :
    ∀ (ds : List Nat) (s : WState), CleanRun (walkSys H nB) s →
      run (walkSys H nA) s ds = run (walkSys H nB) s ds := by
  intro ds s hc
  refine walk_sim (Q := fun _ va vb => va = vb) (fun n va vb hq => ?_) ds s s
    (.self (clean_state hc) fun _ _ _ => rfl) hc
  subst hq
  cases hg : H.get? n with
  | none => exact .inl ⟨rfl, rfl⟩
  | some b =>
    refine .inr ⟨b, b, rfl, rfl, arityIn_sim rfl fun d hne => ?_⟩
    rw [h b (get?_mem hg).1 va d hne]
    exact .self hne fun _ _ _ => rfl

end Scfg.C04
