import Scfg.Lemmas.List
/-!
# A work-list loop with a seen-set is a graph search

Several loops of the model take the first item of a work list, drop it if its key has been seen, and
otherwise visit it: mark its key and put new items on the list. `Search` is what such a loop does,
apart from its fuel, from the end of the list at which new items join, and from what the loop makes
of its visits (an output list, a dictionary, the seen-set itself). `Search.spec` says what has been
visited when the list is empty; any other invariant of such a loop is an `induction` on `Search`.
-/
namespace Scfg

section
variable {α κ γ : Type}

/-- From the work list `q` and the keys `seen`, the search makes the visits `vis`, in this order.
    `Visit x new res`: visiting `x` puts `new` on the work list and gives `res`. -/
inductive Search (key : α → κ) (Visit : α → List α → γ → Prop) :
    List α → List κ → List (α × List α × γ) → Prop
  | done {seen} : Search key Visit [] seen []
  | skip {x q seen vis} : key x ∈ seen → Search key Visit q seen vis → Search key Visit (x :: q) seen vis
  | visit {x q q' seen vis new res} : key x ∉ seen → Visit x new res →
      (∀ y, y ∈ q' ↔ y ∈ new ∨ y ∈ q) → Search key Visit q' (key x :: seen) vis →
      Search key Visit (x :: q) seen ((x, new, res) :: vis)

variable {key : α → κ} {Visit : α → List α → γ → Prop}

theorem Search.head {x : α} {q : List α} {seen : List κ} {vis : List (α × List α × γ)}
    (h : Search key Visit (x :: q) seen vis) (hx : key x ∉ seen) :
    ∃ new res tl, vis = (x, new, res) :: tl := by
  cases h with
  | skip hs _ => exact absurd hs hx
  | visit _ _ _ _ => exact ⟨_, _, _, rfl⟩

/-- What a search has done: all its visits are within any set `P` that holds the work list and is
    closed under visits; the keys seen before and the keys of the visits are pairwise different; and among
    them is the key of everything on the work list, or put there by a visit. -/
theorem Search.spec {q : List α} {seen : List κ} {vis : List (α × List α × γ)}
    (h : Search key Visit q seen vis) (P : α → Prop)
    (hP : ∀ x new res, P x → Visit x new res → ∀ y ∈ new, P y) (hq : ∀ x ∈ q, P x) (hs : seen.Nodup) :
    (∀ t ∈ vis, P t.1 ∧ Visit t.1 t.2.1 t.2.2) ∧ (seen ++ vis.map (key ·.1)).Nodup ∧
    (∀ x ∈ q, key x ∈ seen ++ vis.map (key ·.1)) ∧
    (∀ t ∈ vis, ∀ y ∈ t.2.1, key y ∈ seen ++ vis.map (key ·.1)) := by
  induction h with
  | done => exact ⟨nofun, by rwa [List.map_nil, List.append_nil], nofun, nofun⟩
  | @skip x q seen vis hx _ ih =>
    obtain ⟨h1, h2, h3, h4⟩ := ih (fun y hy => hq y (List.mem_cons_of_mem _ hy)) hs
    exact ⟨h1, h2, List.forall_mem_cons.mpr ⟨List.mem_append_left _ hx, h3⟩, h4⟩
  | @visit x q q' seen vis new res hx hv hq' _ ih =>
    have hPx : P x := hq x List.mem_cons_self
    obtain ⟨h1, h2, h3, h4⟩ := ih (fun y hy =>
      ((hq' y).mp hy).elim (hP x new res hPx hv y) fun hy => hq y (List.mem_cons_of_mem _ hy))
      (List.nodup_cons.mpr ⟨hx, hs⟩)
    -- the keys known after the visit of `x`, with the key of `x` moved from the seen to the visited
    have mid {k : κ} (hk : k ∈ key x :: seen ++ vis.map (key ·.1)) :
        k ∈ seen ++ ((x, new, res) :: vis).map (key ·.1) := List.perm_middle.mem_iff.mpr hk
    exact ⟨List.forall_mem_cons.mpr ⟨⟨hPx, hv⟩, h1⟩, List.perm_middle.nodup_iff.mpr h2,
      List.forall_mem_cons.mpr ⟨mid List.mem_cons_self, fun y hy => mid (h3 y ((hq' y).mpr (Or.inr hy)))⟩,
      List.forall_mem_cons.mpr ⟨fun y hy => mid (h3 y ((hq' y).mpr (Or.inl hy))),
        fun t ht y hy => mid (h4 t ht y hy)⟩⟩

/-- `Search.spec` from an empty seen-set, which is how every loop starts: the keys of the work list,
    and of what the visits put on it, are keys of visits. -/
theorem Search.spec_nil {q : List α} {vis : List (α × List α × γ)}
    (h : Search key Visit q [] vis) (P : α → Prop)
    (hP : ∀ x new res, P x → Visit x new res → ∀ y ∈ new, P y) (hq : ∀ x ∈ q, P x) :
    (∀ t ∈ vis, P t.1 ∧ Visit t.1 t.2.1 t.2.2) ∧ (vis.map (key ·.1)).Nodup ∧
    (∀ x ∈ q, ∃ t ∈ vis, key t.1 = key x) ∧
    (∀ t ∈ vis, ∀ y ∈ t.2.1, ∃ u ∈ vis, key u.1 = key y) := by
  obtain ⟨h1, h2, h3, h4⟩ := h.spec P hP hq List.nodup_nil
  exact ⟨h1, h2, fun x hx => List.mem_map.mp (h3 x hx), fun t ht y hy => List.mem_map.mp (h4 t ht y hy)⟩

end

end Scfg
