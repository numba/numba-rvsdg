import Scfg.Lemmas.List
/-!
# Lookups in a flat hierarchy

What `Blk.jt` and `Blk.isOrig` say of a block; `Hier.get?` (by name, hierarchy-wide), `Hier.getIn?` (by container
and name) and `Hier.level`: what a successful lookup says, how the two lookups agree when names are unique; the head
of a level; and the lookup laws of `graph[name] = block` (`putIn`) and `graph.pop(name)`.
-/
namespace Scfg
open Scfg.Model

/-! ## Blocks -/

theorem isOrig_not {b : Blk} (h : b.isOrig = true) :
    b.isRegion = false ∧ b.kind.isBranching = false := by
  unfold Blk.isOrig at h
  unfold Blk.isRegion
  revert h
  cases b.kind <;> decide

theorem isOrig_of_isRegion {b : Blk} (h : b.isRegion = true) : b.isOrig = false := by
  cases ho : b.isOrig with
  | false => rfl
  | true => rw [(isOrig_not ho).1] at h; cases h

theorem mem_jt {b : Blk} {t : Name} : t ∈ b.jt ↔ t ∈ b.jts ∧ t ∉ b.bes := by
  simp [Blk.jt]

theorem jt_of_bes_nil {b : Blk} (h : b.bes = []) : b.jt = b.jts := by
  rw [Blk.jt, h]
  exact List.filter_eq_self.mpr fun _ _ => rfl

theorem jt_length_le (b : Blk) : b.jt.length ≤ b.jts.length := List.length_filter_le _ _

/-! ## Lookups -/

theorem get?_mem {H : Hier} {n : Name} {b : Blk} (h : H.get? n = some b) : b ∈ H ∧ b.name = n :=
  find?_beq_some h

theorem getIn?_mem {H : Hier} {c n : Name} {b : Blk} (h : H.getIn? c n = some b) :
    b ∈ H ∧ b.cont = c ∧ b.name = n :=
  ⟨List.mem_of_find?_eq_some h, by simpa using List.find?_some h⟩

theorem mem_level {H : Hier} {c : Name} {b : Blk} : b ∈ H.level c ↔ b ∈ H ∧ b.cont = c := by
  simp [Hier.level]

theorem getIn?_level {H : Hier} {c n : Name} {b : Blk} (h : H.getIn? c n = some b) :
    b ∈ H.level c ∧ b.name = n :=
  ⟨mem_level.mpr ⟨(getIn?_mem h).1, (getIn?_mem h).2.1⟩, (getIn?_mem h).2.2⟩

theorem get?_none_of_not_mem {H : Hier} {n : Name} (h : n ∉ H.names) : H.get? n = none := by
  cases hg : H.get? n with
  | none => rfl
  | some b => exact absurd (List.mem_map.mpr ⟨b, get?_mem hg⟩) h

theorem ne_of_get?_none {H : Hier} {n x : Name} (hn : (H.get? n).isSome = true) (hx : H.get? x = none) :
    n ≠ x := by
  rintro rfl
  rw [hx] at hn
  cases hn

theorem ne_of_get? {H : Hier} {x n : Name} {b : Blk} (h : H.get? n = some b) (hx : x ∉ H.names) :
    n ≠ x :=
  ne_of_get?_none (by rw [h]; rfl) (get?_none_of_not_mem hx)

theorem get?_flat (H : Hier) (c n : Name) (hf : ∀ b ∈ H, b.cont = c) : H.get? n = H.getIn? c n := by
  unfold Hier.get? Hier.getIn?
  induction H with
  | nil => rfl
  | cons x xs ih =>
    rw [List.find?_cons, List.find?_cons, name_beq (hf x List.mem_cons_self), Bool.true_and,
      ih fun b hb => hf b (List.mem_cons_of_mem _ hb)]

theorem key_self (b : Blk) : (b.cont == b.cont && b.name == b.name) = true := by
  rw [name_beq rfl, name_beq rfl]
  rfl

theorem key_ne {c n c' n' : Name} (h : ¬(c' = c ∧ n' = n)) {x : Blk}
    (hx : (x.cont == c' && x.name == n') = true) : (x.cont == c && x.name == n) = false := by
  rw [Bool.and_eq_true, beq_iff_eq, beq_iff_eq] at hx
  rw [← hx.1, ← hx.2] at h
  exact Bool.eq_false_iff.mpr fun hk => h (by rwa [Bool.and_eq_true, beq_iff_eq, beq_iff_eq] at hk)

theorem getIn?_of_mem {H : Hier} {b : Blk} (hb : b ∈ H) : (H.getIn? b.cont b.name).isSome := by
  unfold Hier.getIn?
  rw [List.find?_isSome]
  exact ⟨b, hb, key_self b⟩

theorem eq_of_name {H : Hier} (hu : H.names.Nodup) {a b : Blk} (ha : a ∈ H) (hb : b ∈ H)
    (h : a.name = b.name) : a = b := eq_of_key hu ha hb h

theorem get?_of_mem {H : Hier} (hu : H.names.Nodup) {b : Blk} (hb : b ∈ H) : H.get? b.name = some b :=
  find?_key hu hb

/-- C04: with unique names the in-level lookup is the lookup by name -/
theorem getIn?_eq_get? {H : Hier} {c n : Name} {x : Blk} (hu : H.names.Nodup)
    (h : H.getIn? c n = some x) : H.get? n = some x := by
  obtain ⟨hx, _, hn⟩ := getIn?_mem h
  exact hn ▸ get?_of_mem hu hx

theorem getIn?_self {H : Hier} (hu : H.names.Nodup) {b : Blk} (hb : b ∈ H) :
    H.getIn? b.cont b.name = some b := by
  obtain ⟨e, h⟩ := Option.isSome_iff_exists.mp (getIn?_of_mem hb)
  obtain ⟨he, _, hn⟩ := getIn?_mem h
  rw [h, eq_of_name hu he hb hn]

/-! ## The head of a level

`findHeadOf` (Sem.lean) is the function; `Spec.headRef` is the same text, and `findHead` raises where it has no answer. -/

/-- the head of a level is its one member that no member names -/
theorem findHeadOf_spec {lvl : List Blk} {h : Name} (hh : findHeadOf lvl = some h) :
    ∃ b ∈ lvl, b.name = h ∧ (∀ a ∈ lvl, h ∉ a.jt) ∧
      ∀ b' ∈ lvl, (∀ a ∈ lvl, b'.name ∉ a.jt) → b' = b := by
  unfold findHeadOf at hh
  split at hh
  · next x hx =>
    cases hh
    have hmem : ∀ y, (y ∈ lvl ∧ ∀ a ∈ lvl, y.name ∉ a.jt) ↔ y = x := fun y => by
      rw [← List.mem_singleton, ← hx, List.mem_filter]
      simp only [Bool.not_eq_true', List.any_eq_false, List.contains_iff_mem]
    obtain ⟨hx1, hx2⟩ := (hmem x).mpr rfl
    exact ⟨x, hx1, rfl, hx2, fun b' hb' hnone => (hmem b').mp ⟨hb', hnone⟩⟩
  · cases hh

theorem findHead_eq (H : Hier) (c : Name) :
    findHead H c = match findHeadOf (H.level c) with
      | some h => .ok h
      | none => .error (assertionAt "find_head") := by
  simp only [findHead, findHeadOf]
  generalize List.filter (fun b => !(H.level c).any fun a => a.jt.contains b.name) (H.level c) = l
  cases l with
  | nil => rfl
  | cons x xs => cases xs <;> rfl

/-! ## `graph[name] = block` and `graph.pop(name)` -/

theorem getIn?_putIn (H : Hier) (b : Blk) (c n : Name) :
    (putIn H b).getIn? c n = if c = b.cont ∧ n = b.name then some b else H.getIn? c n := by
  split
  · next h =>
    rw [h.1, h.2]
    exact find?_dictSet_same H (key_self b)
  · next h =>
    have h' : ¬(b.cont = c ∧ b.name = n) := fun e => h ⟨e.1.symm, e.2.symm⟩
    exact find?_dictSet_other H (key_ne h' (key_self b)) fun x hx => key_ne h' hx

theorem getIn?_filter (H : Hier) (c n c' n' : Name) :
    Hier.getIn? (H.filter fun x => !(x.cont == c && x.name == n)) c' n' =
      if c' = c ∧ n' = n then none else H.getIn? c' n' := by
  split
  · next h =>
    rw [h.1, h.2]
    exact find?_filter_same H
  · next h => exact find?_filter_other H fun x hx => key_ne h hx

/-! ## `getIn`: the raising lookup of the model -/

theorem getIn_eq_ok {site : String} {H : Hier} {c n : Name} {b : Blk} :
    getIn site H c n = .ok b ↔ H.getIn? c n = some b := by
  unfold getIn
  cases H.getIn? c n with
  | none => exact ⟨nofun, nofun⟩
  | some x => exact ⟨fun h => by cases h; rfl, fun h => by cases h; rfl⟩

end Scfg
