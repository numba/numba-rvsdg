import Scfg.Basic
import Std.Data.HashMap
/-!
# Decision-driven transition systems, traces, and a verified simulation checker

`verifySim` only *checks* that a candidate relation `R` contains the start pair and is closed
under every decision with equal observations. `verifySim_sound` turns one successful check
into trace equality for **all** decision sequences of any length. `R` may come from any
(unverified) search. `verifyCert` is the same check in time linear in `R`, with successor indices as a
certificate; it is the one the deciders use (`simOKc`). The second half does the same for an invariant of
one system (`invOK`, `verifyInvCert`, `reachOKc`). Both rest on `run_eq_of_closed` / `inv_of_closed`: a
relation (a set) closed under the steps, as a predicate; `Scfg/Lemmas/Walk.lean` builds on the first.
-/
namespace Scfg

/-- What an observer sees in a state. `blk n k`: original block `n` is executing and offers
    `k` decisions. Only `blk` states can be continued. -/
inductive Obs
  | blk (n : Name) (arity : Nat)
  | halt
  | err (ctl : Bool) (msg : String)
  deriving DecidableEq, Repr, Inhabited

def Obs.arity : Obs → Nat
  | .blk _ k => k
  | _ => 0

def Obs.isErr : Obs → Bool
  | .err _ _ => true
  | _ => false

/-- A control-variable error: a branching block read an unset variable, a value that is not a
    key of its table, or a table entry that is not one of its successors. -/
def Obs.isCtlErr : Obs → Bool
  | .err ctl _ => ctl
  | _ => false

structure Sys (σ : Type) where
  obs : σ → Obs
  /-- successor under the `i`-th decision; only consulted for `i < (obs s).arity` -/
  step : σ → Nat → σ

/-- The trace under a decision sequence. A decision outside the offered range ends the run
    (so does arity 0): "execution stops exactly where the original stops". -/
def run {σ : Type} (S : Sys σ) : σ → List Nat → List Obs
  | s, [] => [S.obs s]
  | s, d :: ds => S.obs s :: (if d < (S.obs s).arity then run S (S.step s d) ds else [])

def pairOk {α β : Type} [BEq α] [BEq β] (A : Sys α) (B : Sys β) (R : List (α × β))
    (p : α × β) : Bool :=
  A.obs p.1 == B.obs p.2 &&
  (List.range (A.obs p.1).arity).all fun i => R.contains (A.step p.1 i, B.step p.2 i)

def verifySim {α β : Type} [BEq α] [BEq β] (A : Sys α) (B : Sys β) (R : List (α × β))
    (a0 : α) (b0 : β) : Bool :=
  R.contains (a0, b0) && R.all (pairOk A B R)

theorem run_eq_of_closed {α β : Type} (A : Sys α) (B : Sys β) (P : α × β → Prop)
    (hobs : ∀ p, P p → A.obs p.1 = B.obs p.2)
    (hstep : ∀ p, P p → ∀ i, i < (A.obs p.1).arity → P (A.step p.1 i, B.step p.2 i)) :
    ∀ (ds : List Nat) (a : α) (b : β), P (a, b) → run A a ds = run B b ds := by
  intro ds
  induction ds with
  | nil => intro a b h; simp [run, hobs _ h]
  | cons d ds ih =>
    intro a b h
    have ho := hobs _ h
    simp only [run, ← ho]
    by_cases hd : d < (A.obs a).arity
    · simp [hd, ih _ _ (hstep _ h d hd)]
    · simp [hd]

theorem verifySim_sound {α β : Type} [BEq α] [BEq β] [LawfulBEq α] [LawfulBEq β]
    (A : Sys α) (B : Sys β) (R : List (α × β)) (a0 : α) (b0 : β)
    (h : verifySim A B R a0 b0 = true) : ∀ ds, run A a0 ds = run B b0 ds := by
  simp only [verifySim, Bool.and_eq_true, List.contains_iff_mem, List.all_eq_true, pairOk,
    beq_iff_eq, List.mem_range] at h
  exact fun ds => run_eq_of_closed A B (· ∈ R) (fun p hp => (h.2 p hp).1)
    (fun p hp i hi => (h.2 p hp).2 i hi) ds a0 b0 h.1

/-! ## The same check with a certificate: `R` as an array plus, for every pair and decision, the
index of the successor pair. Checking is linear in the size of `R`; the certificate comes from
an untrusted hash-based search. -/

def verifyCert {α β : Type} [BEq α] [BEq β] (A : Sys α) (B : Sys β) (R : Array (α × β))
    (cert : Array (List Nat)) (a0 : α) (b0 : β) : Bool :=
  (R[0]? == some (a0, b0)) &&
  (List.range R.size).all fun k =>
    match R[k]?, cert[k]? with
    | some p, some js =>
      A.obs p.1 == B.obs p.2 &&
      (List.range (A.obs p.1).arity).all fun i =>
        match js[i]? with
        | some j => R[j]? == some (A.step p.1 i, B.step p.2 i)
        | none => false
    | _, _ => false

theorem verifyCert_sound {α β : Type} [BEq α] [BEq β] [LawfulBEq α] [LawfulBEq β]
    (A : Sys α) (B : Sys β) (R : Array (α × β)) (cert : Array (List Nat)) (a0 : α) (b0 : β)
    (h : verifyCert A B R cert a0 b0 = true) : ∀ ds, run A a0 ds = run B b0 ds := by
  rw [verifyCert, Bool.and_eq_true, beq_iff_eq] at h
  obtain ⟨h0, hall⟩ := h
  have entry : ∀ p, (∃ k : Nat, R[k]? = some p) → A.obs p.1 = B.obs p.2 ∧
      ∀ i, i < (A.obs p.1).arity → ∃ j : Nat, R[j]? = some (A.step p.1 i, B.step p.2 i) := by
    rintro p ⟨k, hk⟩
    have := List.all_eq_true.mp hall k (List.mem_range.mpr (Array.getElem?_eq_some_iff.mp hk).1)
    rw [hk] at this
    split at this
    · next p' js hp _ =>
      cases hp
      rw [Bool.and_eq_true, beq_iff_eq, List.all_eq_true] at this
      refine ⟨this.1, fun i hi => ?_⟩
      have h2 := this.2 i (List.mem_range.mpr hi)
      split at h2
      · next j _ => exact ⟨j, beq_iff_eq.mp h2⟩
      · cases h2
    · cases this
  exact fun ds => run_eq_of_closed A B (fun p => ∃ k : Nat, R[k]? = some p) (fun p hp => (entry p hp).1)
    (fun p hp => (entry p hp).2) ds a0 b0 ⟨0, h0⟩

/-- Untrusted hash-based search: breadth-first over the product, recording successor indices. -/
def buildCert {α β : Type} [BEq α] [BEq β] [Hashable α] [Hashable β] (A : Sys α) (B : Sys β)
    (a0 : α) (b0 : β) (limit : Nat) : Array (α × β) × Array (List Nat) := Id.run do
  let mut R : Array (α × β) := #[(a0, b0)]
  let mut idx : Std.HashMap (α × β) Nat := Std.HashMap.emptyWithCapacity 64 |>.insert (a0, b0) 0
  let mut cert : Array (List Nat) := #[]
  let mut k := 0
  while k < R.size && k < limit do
    match R[k]? with
    | none => pure ()
    | some p =>
      let mut js : List Nat := []
      for i in List.range (A.obs p.1).arity do
        let q := (A.step p.1 i, B.step p.2 i)
        match idx[q]? with
        | some j => js := js ++ [j]
        | none =>
          let j := R.size
          R := R.push q
          idx := idx.insert q j
          js := js ++ [j]
      cert := cert.push js
    k := k + 1
  return (R, cert)

def simOKc {α β : Type} [BEq α] [BEq β] [Hashable α] [Hashable β] (A : Sys α) (B : Sys β)
    (a0 : α) (b0 : β) (limit : Nat) : Bool :=
  let (R, cert) := buildCert A B a0 b0 limit
  verifyCert A B R cert a0 b0

theorem simOKc_sound {α β : Type} [BEq α] [BEq β] [LawfulBEq α] [LawfulBEq β] [Hashable α]
    [Hashable β] (A : Sys α) (B : Sys β) (a0 : α) (b0 : β) (limit : Nat)
    (h : simOKc A B a0 b0 limit = true) : ∀ ds, run A a0 ds = run B b0 ds := by
  unfold simOKc at h
  exact verifyCert_sound A B _ _ a0 b0 h

/-- Untrusted worklist search for a candidate relation: explores the product from the start
    pair, following the decisions the *left* system offers. -/
def buildSim {α β : Type} [BEq α] [BEq β] (A : Sys α) (B : Sys β) :
    Nat → List (α × β) → List (α × β) → List (α × β)
  | 0, _, seen => seen
  | _ + 1, [], seen => seen
  | f + 1, p :: todo, seen =>
    if seen.contains p then buildSim A B f todo seen
    else
      let succs := (List.range (A.obs p.1).arity).map fun i => (A.step p.1 i, B.step p.2 i)
      buildSim A B f (succs ++ todo) (p :: seen)

/-- Search, then verify. Only the verification matters for soundness. -/
def simOK {α β : Type} [BEq α] [BEq β] (A : Sys α) (B : Sys β) (a0 : α) (b0 : β)
    (fuel : Nat) : Bool :=
  verifySim A B (buildSim A B fuel [(a0, b0)] []) a0 b0

theorem simOK_sound {α β : Type} [BEq α] [BEq β] [LawfulBEq α] [LawfulBEq β]
    (A : Sys α) (B : Sys β) (a0 : α) (b0 : β) (fuel : Nat)
    (h : simOK A B a0 b0 fuel = true) : ∀ ds, run A a0 ds = run B b0 ds :=
  verifySim_sound A B _ a0 b0 h

/-! ## Invariants of one system: a verified closed-set check -/

def invOK {σ : Type} [BEq σ] (S : Sys σ) (bad : Obs → Bool) (R : List σ) (s0 : σ) : Bool :=
  R.contains s0 &&
  R.all fun s => !bad (S.obs s) && (List.range (S.obs s).arity).all fun i => R.contains (S.step s i)

theorem inv_of_closed {σ : Type} (S : Sys σ) (bad : Obs → Bool) (P : σ → Prop)
    (hbad : ∀ s, P s → bad (S.obs s) = false)
    (hstep : ∀ s, P s → ∀ i, i < (S.obs s).arity → P (S.step s i)) :
    ∀ (ds : List Nat) (s : σ), P s → ∀ o ∈ run S s ds, bad o = false := by
  intro ds
  induction ds with
  | nil =>
    intro s hs o ho
    simp only [run, List.mem_singleton] at ho
    rw [ho]; exact hbad s hs
  | cons d ds ih =>
    intro s hs o ho
    simp only [run, List.mem_cons] at ho
    rcases ho with ho | ho
    · rw [ho]; exact hbad s hs
    · split at ho
      · next hd => exact ih _ (hstep s hs d hd) o ho
      · simp at ho

theorem invOK_sound {σ : Type} [BEq σ] [LawfulBEq σ] (S : Sys σ) (bad : Obs → Bool) (R : List σ)
    (s0 : σ) (h : invOK S bad R s0 = true) : ∀ ds, ∀ o ∈ run S s0 ds, bad o = false := by
  simp only [invOK, Bool.and_eq_true, List.contains_iff_mem, List.all_eq_true, Bool.not_eq_true',
    List.mem_range] at h
  exact fun ds => inv_of_closed S bad (· ∈ R) (fun s hs => (h.2 s hs).1)
    (fun s hs i hi => (h.2 s hs).2 i hi) ds s0 h.1

/-- Untrusted worklist search for the reachable states. -/
def buildReach {σ : Type} [BEq σ] (S : Sys σ) : Nat → List σ → List σ → List σ
  | 0, _, seen => seen
  | _ + 1, [], seen => seen
  | f + 1, s :: todo, seen =>
    if seen.contains s then buildReach S f todo seen
    else buildReach S f ((List.range (S.obs s).arity).map (S.step s) ++ todo) (s :: seen)

def reachOK {σ : Type} [BEq σ] (S : Sys σ) (bad : Obs → Bool) (s0 : σ) (fuel : Nat) : Bool :=
  invOK S bad (buildReach S fuel [s0] []) s0

theorem reachOK_sound {σ : Type} [BEq σ] [LawfulBEq σ] (S : Sys σ) (bad : Obs → Bool) (s0 : σ)
    (fuel : Nat) (h : reachOK S bad s0 fuel = true) : ∀ ds, ∀ o ∈ run S s0 ds, bad o = false :=
  invOK_sound S bad _ s0 h

/-! ## Invariant check with a certificate -/

def verifyInvCert {σ : Type} [BEq σ] (S : Sys σ) (bad : Obs → Bool) (R : Array σ)
    (cert : Array (List Nat)) (s0 : σ) : Bool :=
  (R[0]? == some s0) &&
  (List.range R.size).all fun k =>
    match R[k]?, cert[k]? with
    | some s, some js =>
      !bad (S.obs s) &&
      (List.range (S.obs s).arity).all fun i =>
        match js[i]? with
        | some j => R[j]? == some (S.step s i)
        | none => false
    | _, _ => false

theorem verifyInvCert_sound {σ : Type} [BEq σ] [LawfulBEq σ] (S : Sys σ) (bad : Obs → Bool)
    (R : Array σ) (cert : Array (List Nat)) (s0 : σ) (h : verifyInvCert S bad R cert s0 = true) :
    ∀ ds, ∀ o ∈ run S s0 ds, bad o = false := by
  rw [verifyInvCert, Bool.and_eq_true, beq_iff_eq] at h
  obtain ⟨h0, hall⟩ := h
  have entry : ∀ s, (∃ k : Nat, R[k]? = some s) → bad (S.obs s) = false ∧
      ∀ i, i < (S.obs s).arity → ∃ j : Nat, R[j]? = some (S.step s i) := by
    rintro s ⟨k, hk⟩
    have := List.all_eq_true.mp hall k (List.mem_range.mpr (Array.getElem?_eq_some_iff.mp hk).1)
    rw [hk] at this
    split at this
    · next s' js hp _ =>
      cases hp
      rw [Bool.and_eq_true, Bool.not_eq_true', List.all_eq_true] at this
      refine ⟨this.1, fun i hi => ?_⟩
      have h2 := this.2 i (List.mem_range.mpr hi)
      split at h2
      · next j _ => exact ⟨j, beq_iff_eq.mp h2⟩
      · cases h2
    · cases this
  exact fun ds => inv_of_closed S bad (fun s => ∃ k : Nat, R[k]? = some s) (fun s hs => (entry s hs).1)
    (fun s hs => (entry s hs).2) ds s0 ⟨0, h0⟩

def buildReachCert {σ : Type} [BEq σ] [Hashable σ] (S : Sys σ) (s0 : σ) (limit : Nat) :
    Array σ × Array (List Nat) := Id.run do
  let mut R : Array σ := #[s0]
  let mut idx : Std.HashMap σ Nat := Std.HashMap.emptyWithCapacity 64 |>.insert s0 0
  let mut cert : Array (List Nat) := #[]
  let mut k := 0
  while k < R.size && k < limit do
    match R[k]? with
    | none => pure ()
    | some s =>
      let mut js : List Nat := []
      for i in List.range (S.obs s).arity do
        let q := S.step s i
        match idx[q]? with
        | some j => js := js ++ [j]
        | none =>
          let j := R.size
          R := R.push q
          idx := idx.insert q j
          js := js ++ [j]
      cert := cert.push js
    k := k + 1
  return (R, cert)

def reachOKc {σ : Type} [BEq σ] [Hashable σ] (S : Sys σ) (bad : Obs → Bool) (s0 : σ)
    (limit : Nat) : Bool :=
  let (R, cert) := buildReachCert S s0 limit
  verifyInvCert S bad R cert s0

theorem reachOKc_sound {σ : Type} [BEq σ] [LawfulBEq σ] [Hashable σ] (S : Sys σ)
    (bad : Obs → Bool) (s0 : σ) (limit : Nat) (h : reachOKc S bad s0 limit = true) :
    ∀ ds, ∀ o ∈ run S s0 ds, bad o = false := by
  unfold reachOKc at h
  exact verifyInvCert_sound S bad _ _ s0 h

/-- The first pair of the candidate relation that is not locally fine (diagnostics only). -/
def firstBad {α β : Type} [BEq α] [BEq β] (A : Sys α) (B : Sys β) (R : List (α × β)) :
    Option (α × β) :=
  R.find? (fun p => !(A.obs p.1 == B.obs p.2))

end Scfg
