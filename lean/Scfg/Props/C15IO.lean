import Scfg.Spec.IOSpec
import Scfg.Lemmas.WorkList
import Scfg.Lemmas.Hier
/-!
# C15 — the model of the dictionary writer and reader, a priori (all hierarchies, all dictionaries)

* `blk_roundtrip`   — one block: what the reader builds from what the writer wrote for a block is
                      that block again (type, ordered successors, back edges, payload, table,
                      variable, assignments, kind, header, exiting, parent, container).
* `toDict_sound` / `toDict_complete` / `toDict_keys_nodup` — whenever the model of `to_dict`
                      answers, the dictionary holds exactly one entry per block of the hierarchy
                      below the container (at every nesting depth), each being that block's entry.
* `makeScfg_exact`  — whenever the model of `make_scfg` answers, the graph it builds holds exactly
                      the blocks `MkCovered`: the entries reached breadth first from the heads
                      without continuing past the exiting block, and recursively what is covered
                      from each reached region's header.
* `io_roundtrip`    — for every hierarchy that is `IOReady` (decided by `ioReady`), the reader applied to
                      what the writer wrote gives back exactly the blocks below the container; proved per
                      context in which the reader builds a level (`Ctx`).

The loops of the writer and of the reader are both graph searches (`Search`,
Scfg/Lemmas/WorkList.lean); the theorems about the two models are read off from what a search has
done when it ends (`Search.spec_nil`).
-/
namespace Scfg.C15
open Scfg.Model Scfg.Spec

/-! ## One block -/

/-- What the writer stores for a block it accepts: `entOfBlk` without its error branches. -/
theorem entOfBlk_ok {H : Hier} {b : Blk} {e : DEnt} (h : entOfBlk H b = .ok e) :
    let base : DEnt := { key := b.name, typ := b.kind, edges := b.jts, backedges := b.bes }
    e = if b.isRegion then
          { base with rkind := b.rkind, contains := sortNames (levelNames H b.name),
                      header := b.header, exiting := b.exiting, parentRegion := b.parent }
        else if b.kind.isBranching then { base with tbl := b.tbl, var := b.var }
        else if b.kind == .synthAssign then { base with asg := b.asg }
        else if b.kind == .bytecode then { base with pay := b.pay }
        else base := by
  -- one case per branch of the writer; the cascade on the right makes the same tests in the same order
  revert h
  fun_cases entOfBlk H b with
  | case1 | case2 => intro h; cases h -- an `ast` block; a region without a parent
  | case3 _ _ hreg => exact fun h => (Except.ok.inj h).symm.trans (if_pos hreg).symm
  | case4 _ _ hreg hbr => exact fun h => (Except.ok.inj h).symm.trans ((if_neg hreg).trans (if_pos hbr)).symm
  | case5 _ _ hreg hbr hasg =>
    exact fun h => (Except.ok.inj h).symm.trans ((if_neg hreg).trans ((if_neg hbr).trans (if_pos hasg))).symm
  | case6 _ _ hreg hbr hasg hbc =>
    exact fun h => (Except.ok.inj h).symm.trans
      ((if_neg hreg).trans ((if_neg hbr).trans ((if_neg hasg).trans (if_pos hbc)))).symm
  | case7 _ _ hreg hbr hasg hbc =>
    exact fun h => (Except.ok.inj h).symm.trans
      ((if_neg hreg).trans ((if_neg hbr).trans ((if_neg hasg).trans (if_neg hbc)))).symm

theorem entOfBlk_fields {H : Hier} {b : Blk} {e : DEnt} (h : entOfBlk H b = .ok e) :
    e.key = b.name ∧ e.typ = b.kind ∧ e.edges = b.jts ∧ (b.isRegion = false → e.contains = []) := by
  -- a projection of the cascade is the cascade of the projections, and the leaves agree
  simp only [entOfBlk_ok h, apply_ite DEnt.key, apply_ite DEnt.typ, apply_ite DEnt.edges,
    apply_ite DEnt.contains, ite_self, true_and]
  intro hn
  rw [if_neg (by simp [hn])]

theorem entOfBlk_isRegion {H : Hier} {b : Blk} {e : DEnt} (h : entOfBlk H b = .ok e) :
    e.typ.isRegion = b.isRegion := congrArg BKind.isRegion (entOfBlk_fields h).2.1

/-- **Writer then reader, one block.** In each class the reader takes the branch the writer took
    (both test the same `typ = kind`, in the same order) and reads back the fields the writer stored;
    every other field is empty in the block because it is in normal form, and in the block the reader
    builds because it is left at its default. -/
theorem blk_roundtrip (H : Hier) (b : Blk) (e : DEnt) (h : entOfBlk H b = .ok e)
    (hn : normalBlk b = true) : blkOfEnt b.cont e = b := by
  rw [entOfBlk_ok h]
  clear h
  unfold normalBlk at hn
  by_cases hreg : b.isRegion = true
  · rw [if_pos hreg] at hn ⊢
    refine (if_pos hreg).trans ?_
    cases b
    simp only [Bool.and_eq_true, beq_iff_eq, List.isEmpty_iff] at hn
    obtain ⟨⟨⟨⟨rfl, rfl⟩, rfl⟩, rfl⟩, rfl⟩ := hn
    rfl
  rw [if_neg hreg] at hn ⊢
  by_cases hbr : b.kind.isBranching = true
  · rw [if_pos hbr] at hn ⊢
    refine (if_neg hreg).trans ((if_pos hbr).trans ?_)
    cases b
    simp only [Bool.and_eq_true, beq_iff_eq, List.isEmpty_iff] at hn
    obtain ⟨⟨⟨⟨rfl, rfl⟩, rfl⟩, rfl⟩, rfl, rfl⟩ := hn
    rfl
  rw [if_neg hbr] at hn ⊢
  by_cases hasg : (b.kind == .synthAssign) = true
  · rw [if_pos hasg] at hn ⊢
    refine (if_neg hreg).trans ((if_neg hbr).trans ((if_pos hasg).trans ?_))
    cases b
    simp only [Bool.and_eq_true, beq_iff_eq, List.isEmpty_iff] at hn
    obtain ⟨⟨⟨⟨rfl, rfl⟩, rfl⟩, rfl⟩, ⟨rfl, rfl⟩, rfl⟩ := hn
    rfl
  rw [if_neg hasg] at hn ⊢
  by_cases hbc : (b.kind == .bytecode) = true
  · rw [if_pos hbc] at hn ⊢
    refine (if_neg hreg).trans ((if_neg hbr).trans ((if_neg hasg).trans ((if_pos hbc).trans ?_)))
    cases b
    simp only [Bool.and_eq_true, beq_iff_eq, List.isEmpty_iff] at hn
    obtain ⟨⟨⟨⟨rfl, rfl⟩, rfl⟩, rfl⟩, ⟨rfl, rfl⟩, rfl⟩ := hn
    rfl
  · rw [if_neg hbc] at hn ⊢
    refine (if_neg hreg).trans ((if_neg hbr).trans ((if_neg hasg).trans ((if_neg hbc).trans ?_)))
    cases b
    simp only [Bool.and_eq_true, beq_iff_eq, List.isEmpty_iff] at hn
    obtain ⟨⟨⟨⟨rfl, rfl⟩, rfl⟩, rfl⟩, ⟨⟨rfl, rfl⟩, rfl⟩, rfl⟩ := hn
    rfl

/-! ## The writer -/

/-- the blocks of the hierarchy below container `top`, at every nesting depth -/
inductive Below (H : Hier) (top : Name) : Blk → Prop
  | top {b} : b ∈ H.level top → Below H top b
  | inner {r b} : Below H top r → r.isRegion = true → b ∈ H.level r.name → Below H top b

theorem below_mem {H : Hier} {top : Name} {b : Blk} (h : Below H top b) : b ∈ H := by
  cases h with
  | top h => exact (mem_level.mp h).1
  | inner _ _ h => exact (mem_level.mp h).1

/-- What holds of `seen` / `out` when the writer's loop ends: only the instance at `q = []` is built, from
    `Search.spec_nil` (`toDict_inv`). -/
structure WInv (H : Hier) (top : Name) (q : List Blk) (seen : List Name) (out : Dict) : Prop where
  sound : ∀ e ∈ out, ∃ b, Below H top b ∧ entOfBlk H b = .ok e
  qbelow : ∀ b ∈ q, Below H top b
  keys : out.map (·.key) = seen.reverse
  nodup : seen.Nodup
  closed : ∀ b, Below H top b → b.name ∈ seen → b.isRegion = true →
    ∀ x ∈ H.level b.name, x.name ∈ seen ∨ x ∈ q

/-- the writer's loop is a search: a visit writes the block's entry and queues the members of a
    region -/
theorem toDictGo_search (H : Hier) {f : Nat} {q : List Blk} {seen : List Name} {out D : Dict}
    (h : toDictGo H f q seen out = .ok D) :
    ∃ vis, Search Blk.name (fun b new e => entOfBlk H b = .ok e ∧
      new = if b.isRegion then H.level b.name else []) q seen vis ∧ D = out ++ vis.map (·.2.2) := by
  fun_induction toDictGo H f q seen out with
  | case1 | case4 => cases h -- out of fuel; the block has no entry
  | case2 => cases h; exact ⟨[], .done, (List.append_nil _).symm⟩
  | case3 f b q seen out hs ih => -- `b` has been seen
    obtain ⟨vis, hv, hD⟩ := ih h
    exact ⟨vis, .skip (mem_iff.mp hs) hv, hD⟩
  | case5 f b q seen out hs e he q' ih => -- `b` is written as `e`
    obtain ⟨vis, hv, hD⟩ := ih h
    refine ⟨(b, _, e) :: vis, .visit (fun hm => hs (mem_iff.mpr hm)) ⟨he, rfl⟩ (fun y => ?_) hv, ?_⟩
    · unfold q'; split <;> simp
    · rw [hD, List.append_assoc]; rfl

theorem toDict_inv {H : Hier} {top : Name} (hu : H.names.Nodup) {D : Dict}
    (h : toDict H top = .ok D) : ∃ seen, WInv H top [] seen D ∧ ∀ b ∈ H.level top, b.name ∈ seen := by
  obtain ⟨vis, hs, rfl⟩ := toDictGo_search H h
  obtain ⟨hvis, hnd, hq, hnew⟩ := hs.spec_nil (Below H top)
    (fun b new e hb hv y hy => by
      rw [hv.2] at hy
      split at hy
      · next hreg => exact Below.inner hb hreg hy
      · cases hy)
    (fun b hb => Below.top (List.mem_reverse.mp hb))
  rw [List.nil_append]
  -- the names seen at the end, latest first
  have hseen : ∀ {n}, (∃ t ∈ vis, t.1.name = n) → n ∈ (vis.map (·.1.name)).reverse := fun h =>
    List.mem_reverse.mpr (List.mem_map.mpr h)
  refine ⟨(vis.map (·.1.name)).reverse,
    ⟨?_, fun _ hb => absurd hb List.not_mem_nil, ?_, nodup_reverse.mpr hnd, ?_⟩, fun b hb => hseen (hq b (List.mem_reverse.mpr hb))⟩
  · intro e he
    obtain ⟨t, ht, rfl⟩ := List.mem_map.mp he
    exact ⟨t.1, (hvis t ht).1, (hvis t ht).2.1⟩
  · -- each visit wrote one entry, under the name of the block visited
    rw [List.reverse_reverse, List.map_map]
    exact List.map_congr_left fun t ht => (entOfBlk_fields (hvis t ht).2.1).1
  · -- a seen region is the block that was visited under its name (names are unique)
    intro b hb hbs hreg x hx
    obtain ⟨t, ht, htb⟩ := List.mem_map.mp (List.mem_reverse.mp hbs)
    obtain ⟨hbt, _, hnew'⟩ := hvis t ht
    cases eq_of_name hu (below_mem hbt) (below_mem hb) htb
    rw [if_pos hreg] at hnew'
    exact Or.inl (hseen (hnew t ht x (hnew' ▸ hx)))

/-- **Nothing foreign is written**: every entry of the dictionary is the entry of a block of the
    hierarchy below the container (no hypotheses on the hierarchy beyond unique names). -/
theorem toDict_sound (H : Hier) (top : Name) (hu : H.names.Nodup) (D : Dict)
    (h : toDict H top = .ok D) : ∀ e ∈ D, ∃ b, Below H top b ∧ entOfBlk H b = .ok e := by
  obtain ⟨_, hinv, _⟩ := toDict_inv hu h
  exact hinv.sound

/-- **Nothing is dropped**: every block below the container, at every nesting depth, has its
    entry in the dictionary. -/
theorem toDict_complete (H : Hier) (top : Name) (hu : H.names.Nodup) (D : Dict)
    (h : toDict H top = .ok D) : ∀ b, Below H top b → ∃ e ∈ D, e.key = b.name := by
  obtain ⟨s', hinv, hq⟩ := toDict_inv hu h
  intro b hb
  have seen : b.name ∈ s' := by
    induction hb with
    | top hm => exact hq _ hm
    | inner hr hreg hm ihr => exact (hinv.closed _ hr ihr hreg _ hm).resolve_right List.not_mem_nil
  exact List.mem_map.mp (hinv.keys ▸ List.mem_reverse.mpr seen)

/-- **Each block once**: the keys of the dictionary are pairwise different. -/
theorem toDict_keys_nodup (H : Hier) (top : Name) (hu : H.names.Nodup) (D : Dict)
    (h : toDict H top = .ok D) : (D.map (·.key)).Nodup := by
  obtain ⟨_, hinv, _⟩ := toDict_inv hu h
  rw [hinv.keys]
  exact nodup_reverse.mpr hinv.nodup

/-! ## The reader -/

/-- names the breadth-first loop of `make_scfg` gets to: the heads, and every successor of a
    reached entry other than the exiting block -/
inductive MkReach (D : Dict) (heads : List Name) (ex : Option Name) : Name → Prop
  | head {h} : h ∈ heads → MkReach D heads ex h
  | succ {x e t} : MkReach D heads ex x → D.get? x = some e → some x ≠ ex → t ∈ e.edges →
      MkReach D heads ex t

/-- the blocks `make_scfg` is meant to build for container `c` -/
inductive MkCovered (D : Dict) : Name → List Name → Option Name → Blk → Prop
  | here {c heads ex x e} : MkReach D heads ex x → D.get? x = some e →
      MkCovered D c heads ex (blkOfEnt c e)
  | inside {c heads ex r e b} : MkReach D heads ex r → D.get? r = some e → e.typ.isRegion = true →
      MkCovered D e.key [e.header] (some e.exiting) b → MkCovered D c heads ex b

/-- the reader's loop is a search: a visit builds the block of the entry, followed by the graph of a
    region (built from its header, with one unit of fuel less), and queues the successors unless the
    entry is the exiting one -/
theorem makeScfg_go_search {D : Dict} {f : Nat} {c : Name} {ex : Option Name} {g : Nat}
    {q seen : List Name} {out r : List Blk} (h : makeScfg.go D f c ex g q seen out = .ok r) :
    ∃ vis, Search id (fun n new items => ∃ e inner, D.get? n = some e ∧ items = blkOfEnt c e :: inner ∧
        new = (if some n == ex then [] else e.edges) ∧
        (if e.typ.isRegion then makeScfg D f e.key [e.header] (some e.exiting) else pure []) = .ok inner)
        q seen vis ∧
      r = out ++ vis.flatMap (·.2.2) := by
  -- `makeScfg.go` is defined together with `makeScfg`, and its functional induction has a motive for each
  induction g generalizing q seen out with
  | zero => unfold makeScfg.go at h; cases h
  | succ g ih =>
    cases q with
    | nil => unfold makeScfg.go at h; cases h; exact ⟨[], .done, (List.append_nil _).symm⟩
    | cons n q =>
      unfold makeScfg.go at h
      by_cases hs : mem seen n = true
      · rw [if_pos hs] at h
        obtain ⟨vis, hv, hr⟩ := ih h
        exact ⟨vis, .skip (mem_iff.mp hs) hv, hr⟩
      · rw [if_neg hs] at h
        cases he : D.get? n with
        | none => rw [he] at h; cases h
        | some e =>
          rw [he] at h
          obtain ⟨inner, hin, h⟩ := ite_bind_eq_ok h
          obtain ⟨vis, hv, hr⟩ := ih h
          refine ⟨(n, _, blkOfEnt c e :: inner) :: vis,
            .visit (fun hm => hs (mem_iff.mpr hm)) ⟨e, inner, he, rfl, rfl, hin⟩ (fun y => ?_) hv, ?_⟩
          · split <;> simp [or_comm]
          · rw [hr, List.flatMap_cons, List.append_assoc, List.append_assoc]; rfl

/-- **`make_scfg`, a priori, for every dictionary and every nesting depth.** Whenever the model
    answers, the graph it built holds exactly the covered blocks. -/
theorem makeScfg_exact (D : Dict) : ∀ (f : Nat) (c : Name) (heads : List Name) (ex : Option Name)
    (out : List Blk), makeScfg D f c heads ex = .ok out →
    (∀ b, MkCovered D c heads ex b → b ∈ out) ∧ (∀ b ∈ out, MkCovered D c heads ex b) := by
  intro f
  induction f with
  | zero => intro c heads ex out h; unfold makeScfg at h; cases h
  | succ f ih =>
    intro c heads ex out h
    unfold makeScfg at h
    obtain ⟨vis, hs, rfl⟩ := makeScfg_go_search h
    obtain ⟨hvis, -, hq, hnew⟩ := hs.spec_nil (MkReach D heads ex)
      (fun n new items hn hv t ht => by
        obtain ⟨e, _, he, _, rfl, _⟩ := hv
        split at ht
        · cases ht
        · next hne => exact MkReach.succ hn he (by simpa using hne) ht)
      (fun n hn => MkReach.head hn)
    clear h hs
    rw [List.nil_append]
    have visited : ∀ x, MkReach D heads ex x → ∃ t ∈ vis, t.1 = x := by
      intro x hx
      induction hx with
      | head hh => exact hq _ hh
      | succ _ he hne ht ihx =>
        obtain ⟨t, htv, rfl⟩ := ihx
        obtain ⟨_, e', _, he', _, hn, _⟩ := hvis t htv
        cases he.symm.trans he'
        rw [if_neg (by simpa using hne)] at hn
        exact hnew t htv _ (hn ▸ ht)
    constructor
    · intro b hb
      cases hb with
      | here hx he =>
        obtain ⟨t, htv, rfl⟩ := visited _ hx
        obtain ⟨_, e', _, he', hit, _⟩ := hvis t htv
        cases he.symm.trans he'
        exact List.mem_flatMap.mpr ⟨t, htv, hit ▸ List.mem_cons_self⟩
      | inside hx he hreg hcov =>
        obtain ⟨t, htv, rfl⟩ := visited _ hx
        obtain ⟨_, e', inner, he', hit, _, hin⟩ := hvis t htv
        cases he.symm.trans he'
        rw [if_pos hreg] at hin
        exact List.mem_flatMap.mpr
          ⟨t, htv, hit ▸ List.mem_cons_of_mem _ ((ih _ _ _ _ hin).1 _ hcov)⟩
    · intro b hb
      obtain ⟨t, htv, hbt⟩ := List.mem_flatMap.mp hb
      obtain ⟨hr, e, inner, he, hit, _, hin⟩ := hvis t htv
      rw [hit] at hbt
      rcases List.mem_cons.mp hbt with rfl | hbi
      · exact MkCovered.here hr he
      · by_cases hreg : e.typ.isRegion = true
        · rw [if_pos hreg] at hin
          exact MkCovered.inside hr he hreg ((ih _ _ _ _ hin).2 _ hbi)
        · rw [if_neg hreg] at hin
          cases hin
          cases hbi

/-! ## Writer then reader: the round trip of the model -/

/-- members of a region's level reachable from its header without continuing past the exiting block -/
inductive LReach (H : Hier) (r : Blk) : Name → Prop
  | header : LReach H r r.header
  | succ {x b t} : LReach H r x → b ∈ H.level r.name → b.name = x → x ≠ r.exiting → t ∈ b.jts →
      LReach H r t

/-- What the round trip needs of a hierarchy (all decidable, evaluated on every real stage graph by
    `ioReady`): unique names, a container name that is no block's name, blocks in normal form,
    every region's header inside it, only the exiting block naming anything outside its level
    (C04: W1, W2, W3, W6), and every member of a region reachable from its header. -/
structure IOReady (H : Hier) (top : Name) : Prop where
  unique : H.names.Nodup
  topFresh : top ∉ H.names
  normal : ∀ b ∈ H, normalBlk b = true
  header : ∀ r ∈ H, r.isRegion = true → r.header ∈ levelNames H r.name
  stay : ∀ r ∈ H, r.isRegion = true → ∀ b ∈ H.level r.name, b.name ≠ r.exiting →
    ∀ t ∈ b.jts, t ∈ levelNames H r.name
  stayTop : ∀ b ∈ H.level top, ∀ t ∈ b.jts, t ∈ levelNames H top
  reach : ∀ r ∈ H, r.isRegion = true → ∀ b ∈ H.level r.name, LReach H r b.name

theorem lreachIter_sound (H : Hier) (r : Blk) {f : Nat} {S : List Name} (h : ∀ x ∈ S, LReach H r x) :
    ∀ x ∈ lreachIter (H.level r.name) r.exiting f S, LReach H r x := by
  fun_induction lreachIter (H.level r.name) r.exiting f S with
  | case1 S => exact h
  | case2 f S ih => -- one more round: the successors of the non-exiting members in `S` join it
    refine ih fun y hy => ?_
    simp only [lreachStep, List.mem_append, List.mem_flatMap, List.mem_filter, Bool.and_eq_true,
      List.contains_iff_mem, bne_iff_ne] at hy
    rcases hy with hy | ⟨b, ⟨hb, hbS, hne⟩, hyt⟩
    · exact h y hy
    · exact LReach.succ (h _ hbS) hb rfl hne hyt

theorem ioReady_sound (H : Hier) (top : Name) (h : ioReady H top = true) : IOReady H top := by
  simp only [ioReady, Bool.and_eq_true, Bool.not_eq_true', List.all_eq_true, Bool.or_eq_true,
    List.contains_iff_mem, beq_iff_eq] at h
  obtain ⟨⟨⟨⟨h1, h2⟩, h3⟩, h4⟩, h5⟩ := h
  -- of `!r.isRegion || …` a region leaves the second alternative
  have h4 : ∀ r ∈ H, r.isRegion = true → _ := fun r hr hreg =>
    (h4 r hr).resolve_left fun hn => Bool.false_ne_true (hn.symm.trans hreg)
  refine ⟨(nodupL_iff _).mp h1, fun hm => Bool.false_ne_true (h2.symm.trans (List.contains_iff_mem.mpr hm)),
    h3, fun r hr hreg => (h4 r hr hreg).1.1,
    fun r hr hreg b hb hne => ((h4 r hr hreg).1.2 b hb).resolve_left hne, h5, fun r hr hreg b hb => ?_⟩
  have := (h4 r hr hreg).2
  simp only [lreachAll, List.all_eq_true, List.contains_iff_mem] at this
  exact lreachIter_sound H r (fun x hx => List.mem_singleton.mp hx ▸ LReach.header) _ (this b hb)

/-- the contexts in which the reader builds a level -/
def Ctx (H : Hier) (top : Name) (D : Dict) (c : Name) (heads : List Name) (ex : Option Name) : Prop :=
  (c = top ∧ heads = sortNames (outerGraph D) ∧ ex = none) ∨
  ∃ r, Below H top r ∧ r.isRegion = true ∧ c = r.name ∧ heads = [r.header] ∧ ex = some r.exiting

section RoundTrip
variable {H : Hier} {top : Name} (hr : IOReady H top) {D : Dict} (hD : toDict H top = .ok D)
include hr hD

omit hD in
theorem level_roundtrip {c : Name} {b : Blk} (hm : b ∈ H.level c) {e : DEnt} (hent : entOfBlk H b = .ok e) :
    blkOfEnt c e = b :=
  (mem_level.mp hm).2 ▸ blk_roundtrip H b e hent (hr.normal b (mem_level.mp hm).1)

theorem dict_get {b : Blk} (hb : Below H top b) : ∃ e, D.get? b.name = some e ∧ entOfBlk H b = .ok e := by
  obtain ⟨e, he, hk⟩ := toDict_complete H top hr.unique D hD b hb
  obtain ⟨b', hb', heb'⟩ := toDict_sound H top hr.unique D hD e he
  cases eq_of_name hr.unique (below_mem hb') (below_mem hb)
    ((entOfBlk_fields heb').1.symm.trans hk)
  exact ⟨e, hk ▸ find?_key (toDict_keys_nodup H top hr.unique D hD) he, heb'⟩

theorem dict_ent {b : Blk} (hb : Below H top b) {e : DEnt} (he : D.get? b.name = some e) :
    entOfBlk H b = .ok e := by
  obtain ⟨e', he', hent⟩ := dict_get hr hD hb
  cases he.symm.trans he'
  exact hent

/-- the outermost graph found by the reader is the top level -/
theorem outer_eq (n : Name) : n ∈ outerGraph D ↔ n ∈ levelNames H top := by
  unfold outerGraph
  simp only [List.mem_filter, List.mem_map, Bool.not_eq_true', List.any_eq_false,
    List.contains_iff_mem]
  constructor
  · rintro ⟨⟨e, he, rfl⟩, hnot⟩
    obtain ⟨b, hb, heb⟩ := toDict_sound H top hr.unique D hD e he
    rw [(entOfBlk_fields heb).1]
    cases hb with
    | top hm => exact List.mem_map.mpr ⟨b, hm, rfl⟩
    | @inner r _ hbr hreg hm =>
      -- a member of a region is listed under `contains` in the region's entry
      obtain ⟨er, her, hrent⟩ := dict_get hr hD hbr
      cases (entOfBlk_ok hrent).trans (if_pos hreg)
      refine absurd ?_ (hnot _ (List.mem_of_find?_eq_some her))
      exact mem_sortNames.mpr (List.mem_map.mpr ⟨b, hm, (entOfBlk_fields heb).1.symm⟩)
  · intro hn
    obtain ⟨b, hm, rfl⟩ := List.mem_map.mp hn
    obtain ⟨e, he, hk⟩ := toDict_complete H top hr.unique D hD b (Below.top hm)
    refine ⟨⟨e, he, hk⟩, fun e' he' hcont => ?_⟩
    -- a region listing a top-level block would have the container's name
    obtain ⟨r', hr', her'⟩ := toDict_sound H top hr.unique D hD e' he'
    cases hreg : r'.isRegion with
    | false => rw [(entOfBlk_fields her').2.2.2 hreg] at hcont; cases hcont
    | true =>
      cases (entOfBlk_ok her').trans (if_pos hreg)
      obtain ⟨b', hm', hbn'⟩ := List.mem_map.mp (mem_sortNames.mp hcont)
      cases eq_of_name hr.unique (mem_level.mp hm').1 (mem_level.mp hm).1 hbn'
      exact hr.topFresh (List.mem_map.mpr ⟨r', below_mem hr',
        (mem_level.mp hm').2.symm.trans (mem_level.mp hm).2⟩)

theorem ctx_level {c : Name} {heads : List Name} {ex : Option Name} (hc : Ctx H top D c heads ex) :
    (∀ b ∈ H.level c, Below H top b) ∧ ∀ n, MkReach D heads ex n ↔ n ∈ levelNames H c := by
  rcases hc with ⟨rfl, rfl, rfl⟩ | ⟨r, hbr, hreg, rfl, rfl, rfl⟩
  · refine ⟨fun b hm => Below.top hm, fun n => ⟨fun h => ?_, fun hn =>
      MkReach.head (mem_sortNames.mpr ((outer_eq hr hD _).mpr hn))⟩⟩
    induction h with
    | head hh => exact (outer_eq hr hD _).mp (mem_sortNames.mp hh)
    | succ _ he _ ht ih =>
      obtain ⟨b, hm, rfl⟩ := List.mem_map.mp ih
      have hent := dict_ent hr hD (Below.top hm) he
      exact hr.stayTop b hm _ ((entOfBlk_fields hent).2.2.1 ▸ ht)
  · have hrm := below_mem hbr
    refine ⟨fun b hm => Below.inner hbr hreg hm, fun n => ⟨fun h => ?_, fun hn => ?_⟩⟩
    · induction h with
      | head hh => exact List.mem_singleton.mp hh ▸ hr.header r hrm hreg
      | succ _ he hne ht ih =>
        obtain ⟨b, hm, rfl⟩ := List.mem_map.mp ih
        have hent := dict_ent hr hD (Below.inner hbr hreg hm) he
        exact hr.stay r hrm hreg b hm (fun e => hne (congrArg some e)) _
          ((entOfBlk_fields hent).2.2.1 ▸ ht)
    · obtain ⟨b, hm, rfl⟩ := List.mem_map.mp hn
      have := hr.reach r hrm hreg b hm
      generalize b.name = x at this
      induction this with
      | header => exact MkReach.head List.mem_cons_self
      | @succ x b' t _ hm' hbn' hne ht ih =>
        obtain ⟨e', he', hent⟩ := dict_get hr hD (Below.inner hbr hreg hm')
        exact MkReach.succ ih (hbn' ▸ he') (fun e => hne (Option.some.inj e))
          ((entOfBlk_fields hent).2.2.1 ▸ ht)

theorem ctx_entry {c : Name} {heads : List Name} {ex : Option Name} (hc : Ctx H top D c heads ex)
    {x : Name} (hx : MkReach D heads ex x) {e : DEnt} (he : D.get? x = some e) :
    ∃ b, b ∈ H.level c ∧ Below H top b ∧ entOfBlk H b = .ok e := by
  obtain ⟨hbel, hreach⟩ := ctx_level hr hD hc
  obtain ⟨b, hm, rfl⟩ := List.mem_map.mp ((hreach x).mp hx)
  exact ⟨b, hm, hbel b hm, dict_ent hr hD (hbel b hm) he⟩

theorem covered_below {c : Name} {heads : List Name} {ex : Option Name} {b : Blk}
    (h : MkCovered D c heads ex b) : Ctx H top D c heads ex → Below H top b := by
  induction h with
  | here hx he =>
    intro hc
    obtain ⟨b0, hm, hb0, hent⟩ := ctx_entry hr hD hc hx he
    exact level_roundtrip hr hm hent ▸ hb0
  | inside hx he hreg _ ih =>
    intro hc
    obtain ⟨b0, hm, hb0, hent⟩ := ctx_entry hr hD hc hx he
    have hreg0 : b0.isRegion = true := (entOfBlk_isRegion hent).symm.trans hreg
    cases (entOfBlk_ok hent).trans (if_pos hreg0)
    exact ih (Or.inr ⟨b0, hb0, hreg0, rfl, rfl, rfl⟩)

theorem covered_here {c : Name} {heads : List Name} {ex : Option Name} (hc : Ctx H top D c heads ex)
    {b : Blk} (hm : b ∈ H.level c) : MkCovered D c heads ex b := by
  obtain ⟨hbel, hreach⟩ := ctx_level hr hD hc
  obtain ⟨e, he, hent⟩ := dict_get hr hD (hbel b hm)
  exact level_roundtrip hr hm hent ▸ MkCovered.here ((hreach b.name).mpr (List.mem_map.mpr ⟨b, hm, rfl⟩)) he

theorem covered_inside {c : Name} {heads : List Name} {ex : Option Name} (hc : Ctx H top D c heads ex)
    {r : Blk} (hm : r ∈ H.level c) (hreg : r.isRegion = true) (b : Blk)
    (hcov : MkCovered D r.name [r.header] (some r.exiting) b) : MkCovered D c heads ex b := by
  obtain ⟨hbel, hreach⟩ := ctx_level hr hD hc
  obtain ⟨e, he, hent⟩ := dict_get hr hD (hbel r hm)
  cases (entOfBlk_ok hent).trans (if_pos hreg)
  exact MkCovered.inside ((hreach r.name).mpr (List.mem_map.mpr ⟨r, hm, rfl⟩)) he hreg hcov

/-- a block below the container is covered from the top, and so is what is covered from its header
    if it is a region -/
theorem below_covered (b : Blk) (hb : Below H top b) :
    MkCovered D top (sortNames (outerGraph D)) none b ∧ (b.isRegion = true → ∀ b',
      MkCovered D b.name [b.header] (some b.exiting) b' →
      MkCovered D top (sortNames (outerGraph D)) none b') := by
  induction hb with
  | top hm =>
    have hc : Ctx H top D top _ _ := Or.inl ⟨rfl, rfl, rfl⟩
    exact ⟨covered_here hr hD hc hm, covered_inside hr hD hc hm⟩
  | inner hbr hreg hm ih =>
    have hc : Ctx H top D _ _ _ := Or.inr ⟨_, hbr, hreg, rfl, rfl, rfl⟩
    exact ⟨ih.2 hreg _ (covered_here hr hD hc hm), fun hregb b' hcov =>
      ih.2 hreg b' (covered_inside hr hD hc hm hregb b' hcov)⟩

end RoundTrip

section
variable (H : Hier) (top : Name) (hr : IOReady H top) (D : Dict) (hD : toDict H top = .ok D)
include hr hD

/-- **Round trip of the model (C15), for every hierarchy that is `IOReady`.** Whenever the writer
    answers with a dictionary and the reader answers on that dictionary, the graph read back holds
    exactly the blocks of the original hierarchy below the container, every field included,
    and it carries the same container name, the
    reader being handed `top` as the name to use when no outermost region records its parent (with
    another name a hierarchy without an outermost region comes back under that name). -/
theorem io_roundtrip (top' : Name) (H' : Hier) (hF : fromDict D top = .ok (top', H')) :
    top' = top ∧ ∀ b, b ∈ H' ↔ Below H top b := by
  unfold fromDict at hF
  by_cases hemp : (sortNames (outerGraph D)).isEmpty = true
  · exact nomatch (if_pos hemp).symm.trans hF
  · replace hF := (if_neg hemp).symm.trans hF
    generalize hT : List.findSome? _ (sortNames (outerGraph D)) = T at hF
    -- the recorded parent of an outermost region, if any, is the container
    have htop : T.getD top = top := by
      cases T with
      | none => rfl
      | some x =>
        obtain ⟨n, hn, hfn⟩ := List.exists_of_findSome?_eq_some hT
        obtain ⟨b, hm, rfl⟩ :=
          List.mem_map.mp ((outer_eq hr hD n).mp (mem_sortNames.mp hn))
        obtain ⟨e, he, hent⟩ := dict_get hr hD (Below.top hm)
        rw [he] at hfn
        dsimp only at hfn
        split at hfn
        · next hcond =>
          cases hfn
          have hreg : b.isRegion = true :=
            (entOfBlk_isRegion hent).symm.trans (Bool.and_eq_true _ _ ▸ hcond).1
          cases (entOfBlk_ok hent).trans (if_pos hreg)
          have hnorm := hr.normal b (mem_level.mp hm).1
          rw [normalBlk, if_pos hreg] at hnorm
          simp only [Bool.and_eq_true, beq_iff_eq] at hnorm
          exact hnorm.1.1.1.1.trans (mem_level.mp hm).2
        · cases hfn
    dsimp only at hF
    rw [htop] at hF
    obtain ⟨out, hm, hF⟩ := bind_eq_ok hF
    cases hF
    refine ⟨rfl, fun b => ?_⟩
    obtain ⟨hcomp, hsound⟩ := makeScfg_exact D _ _ _ _ _ hm
    exact ⟨fun hb => covered_below hr hD (hsound b hb) (Or.inl ⟨rfl, rfl, rfl⟩),
           fun hb => hcomp b (below_covered hr hD b hb).1⟩

end

/-! Non-vacuity: a loop region with its latch, written and read back. -/
def exIO : Hier := [
  { cont := "m", name := "0", jts := ["loop_region_0"] },
  { cont := "m", name := "2" },
  { cont := "m", name := "loop_region_0", kind := .region, jts := ["2"], rkind := "loop",
    header := "1", exiting := "1", parent := "m" },
  { cont := "loop_region_0", name := "1", jts := ["1", "2"], bes := ["1"] }]
example : ioReady exIO "m" = true := by decide +kernel

end Scfg.C15
