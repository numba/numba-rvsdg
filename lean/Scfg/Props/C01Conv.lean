import Scfg.Props.C01Chain
/-!
# C01 — certified runs without the error-freeness hypothesis

The step theorems of `C01Wrap` / `C14Paths` / `C14Reroute` / `C01Chain` say: *if the walk over the result is
error-free, it shows the trace of the walk before the step*. Here the other direction: *if the walk before
the step is error-free (at some fuel), the walk over the result shows the same trace (at an explicitly
given larger fuel)* — the step introduces no error. Chained from the input graph, whose walk is trivially
error-free, this removes the hypothesis: `certified_run_total`.
-/
namespace Scfg.C01
open Scfg.Spec Scfg.C04

/-! ## Closing the graph: the other direction -/

theorem adv_closed_conv {H H' : Hier} {new : Name} (hS : ClosedStep H H' new) {consume : Bool} {R : Nat} :
    ∀ {k n val r}, Adv H consume R k n val r → n ≠ new → Adv H' consume R (k + 1) n val r := by
  intro k n val r h
  have rel := fun {n x} (hn : n ≠ new) (hx : resolve H R n = some x) =>
    right_of_rel (closed_resolve H H' new hS hn) hx
  induction h with
  | orig hb ho =>
    intro hn
    obtain ⟨x', hx', hrel⟩ := rel hn hb
    exact hrel.name ▸ .orig hx' (hrel.isOrig.symm ▸ ho)
  | halt hb ho he =>
    intro hn
    obtain ⟨x', hx', hrel⟩ := rel hn hb
    rcases hrel.cases with rfl | ⟨hj, rfl, hbr⟩
    · exact .halt hx' ho he
    · -- a synthetic exit that got the edge: one more step, to the halting block
      obtain ⟨w, h1, h2⟩ := synthExec_exit (new := new) hj hbr consume _
      exact .next hx' ho h2 rfl (hS.adv_new consume (Adv.halt (k := 0) hb ho he).pos_R _)
  | next hb ho he ht _ ih =>
    intro hn
    obtain ⟨x', hx', hrel⟩ := rel hn hb
    rcases hrel.cases with rfl | ⟨hj, rfl, _⟩
    · exact .next hx' ho he ht (ih fun e => hrel.noNew (e ▸ List.mem_of_getElem? ht))
    · rw [hj] at ht; cases ht

/-- **Closing the graph introduces no error.** -/
theorem closed_step_conv (H H' : Hier) (new : Name) (hS : ClosedStep H H' new) (consume : Bool) (R F : Nat)
    (hR : 1 ≤ R) :
    ∀ (ds : List Nat) (st : WState), NotAt new st → CleanRun (sysF H consume R F) st →
      run (sysF H' consume R (F + 1)) st ds = run (sysF H consume R F) st ds := by
  intro ds st hna hc
  refine walk_sim (Q := fun n va vb => va = vb ∧ n ≠ new) ?_ ds st st
    (stSim_notAt (clean_state hc) hna) hc
  rintro n va _ ⟨rfl, hn⟩
  refine (hS.rel n hn).elim (fun h => .inl h.symm) fun ⟨b, b', h1, h2, hrel⟩ => .inr ⟨b', b, h2, h1, fun hcl => ?_⟩
  rcases hrel.cases with rfl | ⟨hj, rfl, _⟩
  · refine arityIn_sim rfl (stepF_ren (.refl b') fun t ht hne => ?_) hcl
    obtain ⟨k, hk, hd⟩ := adv_of_advF rfl hne
    rw [id, advF_of_adv (adv_closed_conv hS hd fun e => hrel.noNew (e ▸ ht)) (F + 1) (Nat.succ_lt_succ hk)]
    exact stSim_notAt hne (advF_notAt fun b hb => by rw [hS.fresh] at hb; cases hb)
  · -- an original exit that got the edge to the halting block
    have h0 : stepF H' consume R (F + 1) { b with jts := [new] } va 0 = .halt :=
      advF_of_adv (hS.adv_new consume hR va) (F + 1) (Nat.succ_pos F)
    exact ⟨by simp [arityIn, hj, h0], fun d hd => by simp [arityIn, hj] at hd⟩

/-! ## Wrapping into a region: the other direction -/

theorem resolve_wrap_conv (H H' : Hier) (r hdr : Name) (hW : Wrapped H H' r hdr) : ∀ R n' x,
    resolve H R (unwrap r hdr n') = some x → ∃ x', resolve H' (2 * R) n' = some x' ∧ WrapRel r hdr x x' := by
  intro R
  induction R with
  | zero => intro n' x h; cases h
  | succ R ih =>
    intro n' x h
    have old : ∀ m, m ≠ r → resolve H (R + 1) m = some x →
        ∃ x', resolve H' (2 * R + 1) m = some x' ∧ WrapRel r hdr x x' := by
      intro m hm hres
      cases h1 : H.get? m with
      | none => rw [resolve_none h1] at hres; cases hres
      | some b =>
        obtain ⟨b', h2, hrel⟩ := right_of_rel (hW.rel m hm) h1
        cases hr : b.isRegion with
        | true =>
          rw [resolve_region h1 hr, ← hrel.header] at hres
          rw [resolve_region h2 (hrel.ren.isRegion.trans hr)]
          exact ih _ _ hres
        | false =>
          rw [resolve_block h1 hr] at hres
          cases hres
          exact ⟨b', resolve_block h2 (hrel.ren.isRegion.trans hr) _, hrel⟩
    by_cases hn : n' = r
    · -- the new region: one more header
      subst hn
      rw [unwrap_self] at h
      obtain ⟨rb, hg, hreg, hh⟩ := hW.region
      obtain ⟨x', hx', hrel⟩ := old hdr hW.hdrNe h
      exact ⟨x', (resolve_region hg hreg (2 * R + 1)).trans (hh ▸ hx'), hrel⟩
    · rw [unwrap_of_ne hn] at h
      obtain ⟨x', hx', hrel⟩ := old n' hn h
      exact ⟨x', resolve_mono H' _ n' x' hx', hrel⟩

theorem Adv.wrap_conv {H H' : Hier} {r hdr : Name} (hW : Wrapped H H' r hdr)
    (hT : ∀ n b', H'.get? n = some b' → TblInJts b') {consume : Bool} {R k : Nat} {m : Name} {val : Val}
    {s : WState} (h : Adv H consume R k m val s) :
    ∀ {n'}, unwrap r hdr n' = m → Adv H' consume (2 * R) k n' val s := by
  have tj : ∀ {n' x'}, resolve H' (2 * R) n' = some x' → TblInJts x' :=
    fun hx' => hT _ _ (resolve_get hx').1
  induction h with
  | orig hb ho =>
    rintro n' rfl
    obtain ⟨x', hx', hrel⟩ := resolve_wrap_conv H H' r hdr hW _ _ _ hb
    exact hrel.name ▸ .orig hx' (hrel.ren.isOrig.symm ▸ ho)
  | halt hb ho he =>
    rintro n' rfl
    obtain ⟨x', hx', hrel⟩ := resolve_wrap_conv H H' r hdr hW _ _ _ hb
    exact .halt hx' (hrel.ren.isOrig.symm ▸ ho) (hrel.ren.synthExec_conv (tj hx') he)
  | next hb ho he ht _ ih =>
    rintro n' rfl
    obtain ⟨x', hx', hrel⟩ := resolve_wrap_conv H H' r hdr hW _ _ _ hb
    obtain ⟨t', ht', hut⟩ := hrel.ren.getElem?_conv ht
    exact .next hx' (hrel.ren.isOrig.symm ▸ ho) (hrel.ren.synthExec_conv (tj hx') he) ht' (ih hut)

/-- **Wrapping blocks into a region introduces no error.** -/
theorem wrapped_conv (H H' : Hier) (r hdr : Name) (hW : Wrapped H H' r hdr) (hfr : H.get? r = none)
    (hT : ∀ n b', H'.get? n = some b' → TblInJts b') (consume : Bool) (R F : Nat) :
    ∀ (ds : List Nat) (st : WState), NotAt r st → CleanRun (sysF H consume R F) st →
      run (sysF H' consume (2 * R) F) st ds = run (sysF H consume R F) st ds := by
  intro ds st hna hc
  refine walk_sim (Q := fun n va vb => va = vb ∧ n ≠ r) ?_ ds st st
    (stSim_notAt (clean_state hc) hna) hc
  rintro n va _ ⟨rfl, hn⟩
  refine (hW.rel n hn).elim (fun h => .inl h.symm) fun ⟨b, b', h1, h2, hrel⟩ => .inr ⟨b', b, h2, h1, ?_⟩
  refine arityIn_sim hrel.ren.length.symm (stepF_ren_conv hrel.ren fun t' _ hne => ?_)
  obtain ⟨k, hk, hd⟩ := adv_of_advF rfl hne
  rw [advF_of_adv (hd.wrap_conv hW hT rfl) F hk]
  exact stSim_notAt hne (advF_notAt fun b hb => by rw [hfr] at hb; cases hb)

/-! ## Splicing a block into arcs: the other direction -/

open Scfg.C14 in
/-- the walk over `H'` passes the same blocks, and the inserted one wherever an arc was routed through it -/
theorem adv_spliced_conv {H H' : Hier} {new s : Name} (hS : Spliced H H' new s)
    (hT : ∀ n b', H'.get? n = some b' → TblInJts b') {consume : Bool} {R : Nat} :
    ∀ {k n' val r}, Adv H consume R k (unsplice new s n') val r → Adv H' consume R (2 * k + 1) n' val r := by
  have hne : ∀ n', unsplice new s n' ≠ new := fun n' => by
    by_cases hn : n' = new
    · rw [hn, unsplice_self]; exact hS.sNe
    · rwa [unsplice_of_ne hn]
  -- over `H'`, starting at `n'` instead of where it leads costs at most the inserted block
  have enter : ∀ {k n' val r}, Adv H' consume R k (unsplice new s n') val r →
      Adv H' consume R (k + 1) n' val r := by
    intro k n' val r h
    by_cases hn : n' = new
    · rw [hn, unsplice_self] at h
      exact hn ▸ .skip_intro hS.newBlk h
    · rw [unsplice_of_ne hn] at h
      exact h.mono (Nat.le_succ k)
  have old : ∀ {k m val r}, Adv H consume R k m val r → m ≠ new → Adv H' consume R (2 * k) m val r := by
    intro k m val r h
    have rel := fun {m x} (hm : m ≠ new) (hx : resolve H R m = some x) =>
      right_of_rel (Scfg.C14.resolve_rel H H' new s hS R m hm) hx
    have tj := fun {m x'} (hx' : resolve H' R m = some x') => hT _ _ (resolve_get hx').1
    induction h with
    | orig hb ho =>
      intro hm
      obtain ⟨x', hx', hsame⟩ := rel hm hb
      exact hsame.ren.name ▸ .orig hx' (hsame.ren.isOrig.symm ▸ ho)
    | halt hb ho he =>
      intro hm
      obtain ⟨x', hx', hsame⟩ := rel hm hb
      exact .halt hx' (hsame.ren.isOrig.symm ▸ ho) (hsame.ren.synthExec_conv (tj hx') he)
    | next hb ho he ht _ ih =>
      intro hm
      obtain ⟨x', hx', hsame⟩ := rel hm hb
      obtain ⟨t', ht', rfl⟩ := hsame.ren.getElem?_conv ht
      exact .next hx' (hsame.ren.isOrig.symm ▸ ho) (hsame.ren.synthExec_conv (tj hx') he) ht' (enter (ih (hne t')))
  intro k n' val r h
  exact enter (old h (hne _))

open Scfg.C14 in
/-- **Splicing a block into arcs introduces no error.** -/
theorem spliced_conv (H H' : Hier) (new s : Name) (hS : Spliced H H' new s) (hfr : H.get? new = none)
    (hT : ∀ n b', H'.get? n = some b' → TblInJts b') (consume : Bool) (R F : Nat) :
    ∀ (ds : List Nat) (st : WState), NotNew new st → CleanRun (sysF H consume R F) st →
      run (sysF H' consume R (2 * F)) st ds = run (sysF H consume R F) st ds := by
  intro ds st hna hc
  rw [notNew_eq_notAt] at hna
  refine walk_sim (Q := fun n va vb => va = vb ∧ n ≠ new) ?_ ds st st
    (stSim_notAt (clean_state hc) hna) hc
  rintro n va _ ⟨rfl, hn⟩
  refine (hS.rel n hn).elim (fun h => .inl h.symm) fun ⟨b, b', h1, h2, hsame⟩ => .inr ⟨b', b, h2, h1, ?_⟩
  refine arityIn_sim hsame.ren.length.symm (stepF_ren_conv hsame.ren fun t' _ hne => ?_)
  obtain ⟨k, hk, hd⟩ := adv_of_advF rfl hne
  rw [advF_of_adv (adv_spliced_conv hS hT hd) (2 * F) (by omega)]
  exact stSim_notAt hne (advF_notAt fun b hb => by rw [hfr] at hb; cases hb)

/-! ## Rerouting through inserted control blocks: the other direction -/

open Scfg.Reroute in
/-- **Crossing never fails**: `chain_cross` without its `1 ≤ m` clause. -/
theorem chain_total (H' : Hier) (isNew isFresh : Name → Bool) (consume : Bool) (R : Nat) (hR : 1 ≤ R) :
    ∀ K n σ t, chainEnd H' isNew isFresh K n σ = some t → ∀ val', Knows σ val' →
      isNew t = false ∧ ∃ m val'', m ≤ K ∧ AgreeOff isFresh val'' val' ∧
        ∀ g, advF H' consume R (g + m) n val' = advF H' consume R g t val'' := by
  intro K n σ t h val' hk
  obtain ⟨ht, m, val'', hm, _, hag, hall⟩ := chain_cross H' isNew isFresh consume R hR K n σ t h val' hk
  exact ⟨ht, m, val'', hm, hag, hall⟩

open Scfg.Reroute in
/-- the walk over `H'` passes the same blocks, and a chain wherever an arc was routed through one -/
theorem adv_rerouted_conv {H H' : Hier} {isNew isFresh : Name → Bool} {K : Nat}
    (hS : Rerouted H H' isNew isFresh K) (hT : ∀ n b', H'.get? n = some b' → TblInJts b')
    {consume : Bool} {R : Nat} :
    ∀ {k n' val val' r}, Adv H consume R k (unr H' isNew isFresh K n') val r →
      (isNew n' = true → (chainEnd H' isNew isFresh K n' []).isSome = true) → AgreeOff isFresh val' val →
      ∃ r', Adv H' consume R ((K + 1) * k + K) n' val' r' ∧ StRel isFresh r r' ∧ OldSt isNew r' := by
  have old : ∀ {k m val r}, Adv H consume R k m val r → isNew m = false → ∀ val', AgreeOff isFresh val' val →
      ∃ r', Adv H' consume R ((K + 1) * k) m val' r' ∧ StRel isFresh r r' ∧ OldSt isNew r' := by
    intro k m val r h
    have rel := fun {m x} (hm : isNew m = false) (hx : resolve H R m = some x) =>
      right_of_rel (Scfg.Reroute.resolve_rel H H' isNew isFresh K hS R m hm) hx
    have tj := fun {m x'} (hx' : resolve H' R m = some x') => hT _ _ (resolve_get hx').1
    induction h with
    | orig hb ho =>
      intro hm val' hag
      obtain ⟨x', hx', hp, hold⟩ := rel hm hb
      exact ⟨_, .orig hx' (hp.same.ren.isOrig.symm ▸ ho), ⟨hp.same.ren.name.symm, hag⟩, hold⟩
    | halt hb ho he =>
      intro hm val' hag
      obtain ⟨x', hx', hp, _⟩ := rel hm hb
      obtain ⟨w', he1, _⟩ := synthExec_agree hp.untouched consume (hag.symm) _ _ he
      exact ⟨_, .halt hx' (hp.same.ren.isOrig.symm ▸ ho) (hp.same.ren.synthExec_conv (tj hx') he1),
        trivial, trivial⟩
    | @next k _ _ _ _ _ t _ hb ho he ht hd ih =>
      intro hm val' hag
      obtain ⟨x', hx', hp, _⟩ := rel hm hb
      obtain ⟨w', he1, hagw⟩ := synthExec_agree hp.untouched consume (hag.symm) _ _ he
      obtain ⟨t', ht', rfl⟩ := hp.same.ren.getElem?_conv ht
      obtain ⟨hold, val'', hag'', hcross⟩ :=
        adv_cross (consume := consume) hd.pos_R w' (hp.entries t' (List.mem_of_getElem? ht'))
      obtain ⟨r', h1, hrel⟩ := ih hold val'' (hag''.trans (hagw.symm))
      exact ⟨r', .next hx' (hp.same.ren.isOrig.symm ▸ ho) (hp.same.ren.synthExec_conv (tj hx') he1) ht' (hcross h1),
        hrel⟩
  intro k n' val val' r h hent hag
  obtain ⟨hold, val'', hag'', hcross⟩ := adv_cross (consume := consume) h.pos_R val' hent
  obtain ⟨r', h1, hrel⟩ := old h hold val'' (hag''.trans hag)
  exact ⟨r', hcross h1, hrel⟩

open Scfg.Reroute in
/-- **Rerouting arcs through inserted control blocks introduces no error.** -/
theorem rerouted_conv (H H' : Hier) (isNew isFresh : Name → Bool) (K : Nat)
    (hS : Rerouted H H' isNew isFresh K) (hT : ∀ n b', H'.get? n = some b' → TblInJts b')
    (consume : Bool) (R F : Nat) :
    ∀ (ds : List Nat) (st st' : WState), StRel isFresh st st' → OldSt isNew st' →
      CleanRun (sysF H consume R F) st →
      run (sysF H' consume R ((K + 1) * F)) st' ds = run (sysF H consume R F) st ds := by
  intro ds st st' h1 h2 hc
  refine walk_sim (Q := fun n va vb => AgreeOff isFresh va vb ∧ isNew n = false) ?_ ds st' st ?_ hc
  · rintro n va vb ⟨hag, hn⟩
    refine (hS.rel n hn).elim (fun h => .inl h.symm) fun ⟨b, b', h1, h2, hp⟩ => .inr ⟨b', b, h2, h1, ?_⟩
    refine arityIn_sim hp.same.ren.length.symm (stepF_ren_conv hp.same.ren fun t' ht' hne => ?_)
    obtain ⟨k, hk, hd⟩ := adv_of_advF rfl hne
    obtain ⟨r', hd', hrel, hold⟩ := adv_rerouted_conv hS hT hd (hp.entries t' ht') hag
    rw [advF_of_adv hd' ((K + 1) * F) (by
      have := Nat.mul_le_mul_left (K + 1) (Nat.succ_le_of_lt hk); rw [Nat.mul_succ] at this; omega)]
    exact (stSim_iff.mpr ⟨hrel, hold⟩).swap
  · exact (stSim_iff.mpr ⟨h1, h2⟩).swap

/-! ## More fuel never changes an error-free walk -/

theorem runs_fuel_mono (H : Hier) (consume : Bool) (R F R' F' : Nat) (hR : R ≤ R') (hF : F ≤ F') :
    ∀ (ds : List Nat) (st : WState), CleanRun (sysF H consume R F) st →
      run (sysF H consume R' F') st ds = run (sysF H consume R F) st ds := by
  refine walk_eq_of_next fun b _ val d hne => ?_
  simp only [stepF] at hne ⊢
  split
  · rfl
  · next t ht => exact adv_fuel_mono hR hF rfl (by rwa [ht] at hne)

/-! ## Chains, without the error-freeness hypothesis -/

theorem tblOKB_sound (H : Hier) (h : tblOKB H = true) : ∀ n b, H.get? n = some b → TblInJts b := by
  intro n b hg hbr p hp
  have := List.all_eq_true.mp h b (get?_mem hg).1
  simp only [hbr, Bool.not_true, Bool.false_or, List.all_eq_true] at this
  simpa [List.contains_iff_mem] using this p hp

/-- one certified step, the other way round: an error-free walk before the step stays what it is
    (the header fuel stays positive, which the next step of a chain asks for) -/
theorem step_conv (H H' : Hier) (t : StepTag) (h : stepOKc H H' t = true) (n : Name)
    (hn : (H.get? n).isSome = true) (consume : Bool) (R F : Nat) (hR : 1 ≤ R) (val : Val)
    (hc : CleanRun (sysF H consume R F) (.at n val)) :
    1 ≤ (stepFuel H' t (R, F)).1 ∧
    ∀ ds, run (sysF H' consume (stepFuel H' t (R, F)).1 (stepFuel H' t (R, F)).2) (.at n val) ds =
      run (sysF H consume R F) (.at n val) ds := by
  simp only [stepOKc, Bool.and_eq_true] at h
  have hT := tblOKB_sound H' h.2
  have hS := stepOK_sound H H' t h.1
  cases t with
  | wrapped r hdr =>
    exact ⟨by simp only [stepFuel]; omega, fun ds =>
      wrapped_conv H H' r hdr hS.2 hS.1 hT consume R F ds _ (ne_of_get?_none hn hS.1) hc⟩
  | spliced new s =>
    exact ⟨hR, fun ds => spliced_conv H H' new s hS.2 hS.1 hT consume R F ds _ (ne_of_get?_none hn hS.1) hc⟩
  | rerouted =>
    exact ⟨hR, fun ds => rerouted_conv H H' _ _ _ hS hT consume R F ds (.at n val) (.at n val)
      ⟨rfl, Scfg.Reroute.AgreeOff.refl _ _⟩ (by simpa [Scfg.Reroute.OldSt] using hn) hc⟩
  | closed new =>
    exact ⟨hR, fun ds => closed_step_conv H H' new hS consume R F hR ds _ (ne_of_get?_none hn hS.fresh) hc⟩

theorem chainOKc_chainOK : ∀ (steps : List (StepTag × Hier)) (H : Hier), chainOKc H steps = true →
    chainOK H steps = true := by
  intro steps
  induction steps with
  | nil => intro H _; rfl
  | cons p rest ih =>
    obtain ⟨t, H'⟩ := p
    intro H h
    simp only [chainOKc, stepOKc, Bool.and_eq_true] at h
    simp only [chainOK, Bool.and_eq_true]
    exact ⟨h.1.1, ih H' h.2⟩

theorem chain_conv : ∀ (steps : List (StepTag × Hier)) (H : Hier), chainOKc H steps = true →
    ∀ (n : Name), (H.get? n).isSome = true → ∀ (consume : Bool) (R F : Nat), 1 ≤ R → ∀ (val : Val),
      CleanRun (sysF H consume R F) (.at n val) →
      ∀ ds, run (sysF (chainLast H steps) consume (chainFuel steps (R, F)).1 (chainFuel steps (R, F)).2)
          (.at n val) ds = run (sysF H consume R F) (.at n val) ds := by
  intro steps
  induction steps with
  | nil => intro H _ n _ consume R F _ val _ ds; rfl
  | cons p rest ih =>
    obtain ⟨t, H'⟩ := p
    intro H h n hn consume R F hR val hc ds
    simp only [chainOKc, Bool.and_eq_true] at h
    obtain ⟨hR', hstep⟩ := step_conv H H' t h.1 n hn consume R F hR val hc
    have hk : (H'.get? n).isSome = true :=
      (step_paths H H' t (by simp only [stepOKc, Bool.and_eq_true] at h; exact h.1.1) n hn).1
    have hc' : CleanRun (sysF H' consume (stepFuel H' t (R, F)).1 (stepFuel H' t (R, F)).2) (.at n val) :=
      clean_of_runs_eq hstep hc
    have := ih H' h.2 n hk consume _ _ hR' val hc' ds
    simp only [chainLast, chainFuel]
    rw [this, hstep ds]

/-- the walk of a closed graph of original blocks shows no error -/
theorem orig_clean (G : Hier) (hG : flatB G = true) : ∀ (ds : List Nat) (n : Name) (g : Blk),
    G.get? n = some g → ∀ o ∈ run (sysOrig G) (some n) ds, o.isErr = false := by
  intro ds n g hg
  refine inv_of_closed (sysOrig G) Obs.isErr (fun s => ∃ n g, G.get? n = some g ∧ s = some n) ?_ ?_ ds _
    ⟨n, g, hg, rfl⟩
  · rintro _ ⟨n, g, hg, rfl⟩
    rw [orig_obs G n g hg]
    rfl
  · rintro _ ⟨n, g, hg, rfl⟩ i hi
    rw [orig_obs G n g hg] at hi
    obtain ⟨x, hx⟩ := (flatB_sound hG hg).2 _ (List.getElem_mem hi)
    exact ⟨_, x, hx, by rw [orig_step G n g i hg, List.getElem?_eq_getElem hi]⟩

/-- **A certified pipeline run, end to end, with no hypothesis on the result.** The input is a closed flat
    graph of original blocks; every step of the real run passed its check (`chainOKc`). Then from every
    block of the input, for every valuation and every decision sequence, the walk by name over the final
    hierarchy — at the explicitly computed fuel `chainFuel steps (1, 1)` and at every larger fuel — shows
    exactly the trace of the input graph, and no error of any kind. -/
theorem certified_run_total (G : Hier) (steps : List (StepTag × Hier)) (hG : flatB G = true)
    (h : chainOKc G steps = true) (n : Name) (g : Blk) (hn : G.get? n = some g) (consume : Bool) (val : Val)
    (R F : Nat) (hR : (chainFuel steps (1, 1)).1 ≤ R) (hF : (chainFuel steps (1, 1)).2 ≤ F) (ds : List Nat) :
    run (sysF (chainLast G steps) consume R F) (.at n val) ds = run (sysOrig G) (some n) ds := by
  have hflat : ∀ ds, run (sysOrig G) (some n) ds = run (sysF G consume 1 1) (.at n val) ds :=
    fun ds => flat_paths G hG consume 1 1 (Nat.le_refl 1) (Nat.le_refl 1) ds n g val hn
  have hc0 : CleanRun (sysF G consume 1 1) (.at n val) :=
    clean_of_runs_eq (fun ds => (hflat ds).symm) fun ds => orig_clean G hG ds n g hn
  have hchain := chain_conv steps G h n (by simp [hn]) consume 1 1 (Nat.le_refl 1) val hc0
  have hcl : CleanRun (sysF (chainLast G steps) consume (chainFuel steps (1, 1)).1 (chainFuel steps (1, 1)).2)
      (.at n val) := clean_of_runs_eq hchain hc0
  rw [runs_fuel_mono (chainLast G steps) consume _ _ R F hR hF ds _ hcl, hchain ds, ← hflat ds]

/-- in particular (C06): in a certified run no walk ever meets a control-variable error — an unset variable,
    a value that is not a key of the table, a table entry that is not a successor — nor any other error -/
theorem certified_run_error_free (G : Hier) (steps : List (StepTag × Hier)) (hG : flatB G = true)
    (h : chainOKc G steps = true) (n : Name) (g : Blk) (hn : G.get? n = some g) (consume : Bool) (val : Val)
    (R F : Nat) (hR : (chainFuel steps (1, 1)).1 ≤ R) (hF : (chainFuel steps (1, 1)).2 ≤ F) :
    CleanRun (sysF (chainLast G steps) consume R F) (.at n val) :=
  clean_of_runs_eq (certified_run_total G steps hG h n g hn consume val R F hR hF)
    fun ds => orig_clean G hG ds n g hn

/-! ## Non-vacuity: a three-step chain (close, splice a tail block, reroute through control blocks) -/

def cxG : Hier := [
  { name := "p", jts := ["t1", "t2"] }, { name := "t1" }, { name := "t2" }]

def cxH1 : Hier := [
  { name := "p", jts := ["t1", "t2"] }, { name := "t1", jts := ["ret"] }, { name := "t2", jts := ["ret"] },
  { name := "ret", kind := .synthReturn }]

def cxH2 : Hier := [
  { name := "p", jts := ["t1", "t2"] }, { name := "t1", jts := ["tail"] }, { name := "t2", jts := ["ret"] },
  { name := "ret", kind := .synthReturn }, { name := "tail", kind := .synthTail, jts := ["ret"] }]

def cxH3 : Hier := [
  { name := "p", jts := ["a1", "a2"] }, { name := "t1", jts := ["tail"] }, { name := "t2", jts := ["ret"] },
  { name := "ret", kind := .synthReturn }, { name := "tail", kind := .synthTail, jts := ["ret"] },
  { name := "a1", kind := .synthAssign, asg := [("cv", 0)], jts := ["new"] },
  { name := "a2", kind := .synthAssign, asg := [("cv", 1)], jts := ["new"] },
  { name := "new", kind := .synthHead, var := "cv", tbl := [(0, "t1"), (1, "t2")], jts := ["t1", "t2"] }]

def cxSteps : List (StepTag × Hier) :=
  [(.closed "ret", cxH1), (.spliced "tail" "ret", cxH2), (.rerouted, cxH3)]

example : flatB cxG = true ∧ chainOKc cxG cxSteps = true := by decide +kernel

example : chainFuel cxSteps (1, 1) = (1, 40) := by decide +kernel

end Scfg.C01
