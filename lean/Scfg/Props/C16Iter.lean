import Scfg.Model.Iter
import Scfg.Lemmas.Hier
import Scfg.Lemmas.WorkList
/-!
# C16 — the models of `SCFG.__iter__` and of the concealed view, a priori, for every hierarchy

Both iterators run the same FIFO work-list loop (`fifo`). It is a graph search (`fifo_search`, with
`Search.spec_nil` of Scfg/Lemmas/WorkList.lean), and it answers when it has fuel for what is pending
(`fifo_total`).
* `SCFG.__iter__`: whenever the model answers it yields exactly the names `Covered` (`iterAll_exact`), the
  head first (`iterAll_head_first`). That it yields none twice is in Props/C16Nodup.lean.
* The concealed view: whenever the model answers it yields exactly the members `ViewReach`
  (`viewIter_exact`, `viewIter_closed`), the head first and every other item after one of its view
  predecessors (`viewIter_order`).
* `iterS` is `iterAll` in a form the kernel evaluates.
-/
namespace Scfg.C16
open Scfg.Model

/-! ## The work-list loop of both iterators -/

section Fifo
variable (look : Name → Option Blk) (emit : Blk → M (List Name × List Name)) (oof : Abort)

/-- The loop of `iterAll.go` and of `viewGo` (`go_eq`, `viewGo_eq`); for a member, `emit` says which
    targets join the work list and what is yielded after the member itself. -/
def fifo : Nat → List Name → List Name → List Name → M (List Name)
  | 0, _, _, _ => .error oof
  | _ + 1, [], _, out => .ok out
  | g + 1, n :: rest, seen, out =>
    if mem seen n then fifo g rest seen out
    else match look n with
      | none => fifo g rest (n :: seen) out
      | some b => match emit b with
        | .error e => .error e
        | .ok (ts, ys) => fifo g (rest ++ ts) (n :: seen) (out ++ [n] ++ ys)

/-- What the loop does at a name `n` it has not seen: a non-member is marked and that is all; a
    member's targets `ts` join the work list, and `n` is yielded, followed by what `emit` says. -/
def Marks (n : Name) (ts ys : List Name) : Prop :=
  (look n = none ∧ ts = [] ∧ ys = []) ∨
  ∃ b ys', look n = some b ∧ emit b = .ok (ts, ys') ∧ ys = n :: ys'

variable {look emit oof}

theorem Marks.member {n : Name} {b : Blk} {ts ys : List Name} (h : Marks look emit n ts ys)
    (hl : look n = some b) : ∃ ys', emit b = .ok (ts, ys') ∧ ys = n :: ys' := by
  rcases h with ⟨hn, _⟩ | ⟨b', ys', hl', he, e⟩
  · rw [hn] at hl; cases hl
  · rw [hl] at hl'; cases hl'; exact ⟨ys', he, e⟩

theorem Marks.yields {n x : Name} {ts ys : List Name} (h : Marks look emit n ts ys) (hx : x ∈ ys) :
    ∃ b ys', look n = some b ∧ emit b = .ok (ts, ys') ∧ ys = n :: ys' :=
  h.resolve_left fun ⟨_, _, e⟩ => by rw [e] at hx; cases hx

theorem Marks.targets {n t : Name} {ts ys : List Name} (h : Marks look emit n ts ys) (ht : t ∈ ts) :
    ∃ b ys', look n = some b ∧ emit b = .ok (ts, ys') ∧ ys = n :: ys' :=
  h.resolve_left fun ⟨_, e, _⟩ => by rw [e] at ht; cases ht

/-- **The loop is a search** by `Marks`, and it yields what the visits yield, in their order. -/
theorem fifo_search {g : Nat} {queue seen out r : List Name}
    (h : fifo look emit oof g queue seen out = .ok r) :
    ∃ vis, Search id (Marks look emit) queue seen vis ∧ r = out ++ vis.flatMap (·.2.2) := by
  fun_induction fifo look emit oof g queue seen out with
  | case1 | case5 => cases h -- out of fuel; `emit` fails
  | case2 => cases h; exact ⟨[], .done, (List.append_nil _).symm⟩
  | case3 g n rest seen out hs ih => -- `n` has been seen
    obtain ⟨vis, hv, hr⟩ := ih h
    exact ⟨vis, .skip (mem_iff.mp hs) hv, hr⟩
  | case4 g n rest seen out hs hl ih => -- `n` is no member
    obtain ⟨vis, hv, hr⟩ := ih h
    exact ⟨(n, [], []) :: vis,
      .visit (fun hm => hs (mem_iff.mpr hm)) (.inl ⟨hl, rfl, rfl⟩) (fun y => by simp) hv, hr⟩
  | case6 g n rest seen out hs b hl ts ys he ih => -- `n` is the member `b`
    obtain ⟨vis, hv, hr⟩ := ih h
    exact ⟨(n, ts, n :: ys) :: vis,
      .visit (fun hm => hs (mem_iff.mpr hm)) (.inr ⟨b, ys, hl, he, rfl⟩) (fun y => by simp [or_comm]) hv,
      by rw [hr, List.flatMap_cons, List.append_assoc, List.append_assoc]; rfl⟩

/-- `w b` = the number of targets `emit b` adds to the work list; a name is marked at most once,
    so the fuel the loop still needs is bounded by what waits plus what unmarked members will add -/
theorem fifo_total {L : List Blk} {w : Blk → Nat} (hL : ∀ n b, look n = some b → b ∈ L ∧ b.name = n)
    (hemit : ∀ b ∈ L, ∃ ts ys, emit b = .ok (ts, ys) ∧ ts.length = w b)
    (g : Nat) (queue seen out : List Name) (h : queue.length + pending Blk.name w seen L < g) :
    ∃ r, fifo look emit oof g queue seen out = .ok r := by
  fun_induction fifo look emit oof g queue seen out with
  | case1 => omega
  | case2 _ _ out => exact ⟨out, rfl⟩
  | case3 g n rest seen out hs ih => -- `n` has been seen
    exact ih (Nat.lt_of_succ_lt_succ (Nat.succ_add _ _ ▸ h))
  | case4 g n rest seen out hs hl ih => -- `n` is no member
    have := pending_mono Blk.name w seen n L
    exact ih (by rw [List.length_cons] at h; omega)
  | case5 g n rest seen out hs b hl e he => -- `emit` fails: not on a member of `L`
    obtain ⟨_, _, he', _⟩ := hemit b (hL n b hl).1
    cases he.symm.trans he'
  | case6 g n rest seen out hs b hl ts ys he ih => -- `n` is the member `b`: its targets no longer pend
    obtain ⟨hbL, hbn⟩ := hL n b hl
    obtain ⟨_, _, he', hlen⟩ := hemit b hbL
    cases he.symm.trans he'
    have := pending_take Blk.name w (seen := seen) (Bool.eq_false_iff.mpr hs) hbL hbn
    exact ih (by rw [List.length_append]; rw [List.length_cons] at h; omega)

end Fifo

/-! ## `__iter__` as an instance of the loop -/

/-- `emit` of `__iter__`: the `jump_targets`, and what the iteration below a region yields -/
def emitIter (inner : Name → M (List Name)) (b : Blk) : M (List Name × List Name) :=
  (if b.isRegion then inner b.name else .ok []) >>= fun ys => .ok (b.jt, ys)

theorem emitIter_ok {inner : Name → M (List Name)} {b : Blk} {ts ys : List Name}
    (h : emitIter inner b = .ok (ts, ys)) :
    ts = b.jt ∧ (b.isRegion = true → inner b.name = .ok ys) ∧ (b.isRegion = false → ys = []) := by
  obtain ⟨ys', he, h⟩ := bind_eq_ok h
  cases h
  cases hr : b.isRegion <;> simp_all

theorem go_eq (H : Hier) (f : Nat) (c : Name) : ∀ g, iterAll.go H f c g =
    fifo (H.getIn? c) (emitIter (iterAll H f)) ⟨"OutOfFuel", "__iter__"⟩ g := by
  intro g
  -- `iterAll.go` is defined together with `iterAll`, and its functional induction has a motive for each
  induction g with
  | zero => funext q s o; rw [iterAll.go, fifo]
  | succ g ih =>
    funext q s o
    cases q with
    | nil => rw [iterAll.go, fifo]
    | cons n rest =>
      rw [iterAll.go, fifo, ih]
      cases H.getIn? c n with
      | none => rfl
      | some b =>
        simp only [emitIter]
        cases b.isRegion with
        | false => rfl
        | true => cases iterAll H f b.name <;> rfl

theorem iterAll_succ (H : Hier) (f : Nat) (c : Name) : iterAll H (f + 1) c =
    findHead H c >>= fun hd => fifo (H.getIn? c) (emitIter (iterAll H f)) ⟨"OutOfFuel", "__iter__"⟩
      ((H.level c).length + (H.level c).foldl (fun n x => n + x.jts.length) 0 + 4) [hd] [] [] := by
  rw [iterAll]
  simp only [go_eq]

/-- members of level `c` the FIFO loop of `__iter__` gets to: the head, and every member that is a
    `jump_targets` successor of a member it got to -/
inductive IterReach (H : Hier) (c : Name) : Name → Prop
  | head {hd} : findHead H c = .ok hd → (H.getIn? c hd).isSome → IterReach H c hd
  | succ {x b t} : IterReach H c x → H.getIn? c x = some b → t ∈ b.jt → (H.getIn? c t).isSome →
      IterReach H c t

/-- everything below `c` the iterator is meant to yield: what it reaches on the level, and what is
    covered below every region it reaches -/
inductive Covered (H : Hier) : Name → Name → Prop
  | here {c x} : IterReach H c x → Covered H c x
  | inside {c r b x} : IterReach H c r → H.getIn? c r = some b → b.isRegion = true →
      Covered H b.name x → Covered H c x

theorem IterReach.mem {H : Hier} {c x : Name} (h : IterReach H c x) : (H.getIn? c x).isSome := by
  cases h <;> assumption

/-- `Search.spec_nil` for `__iter__` on one level, in terms of `IterReach` -/
theorem iterAll_run {H : Hier} {f : Nat} {c : Name} {out : List Name}
    (h : iterAll H (f + 1) c = .ok out) :
    ∃ hd, ∃ vis : List (Name × List Name × List Name), findHead H c = .ok hd ∧
      (vis.map (·.1)).Nodup ∧ (∃ ts ys tl, vis = (hd, ts, ys) :: tl) ∧ out = vis.flatMap (·.2.2) ∧
      (∀ t ∈ vis, ((H.getIn? c t.1).isSome → IterReach H c t.1) ∧
        Marks (H.getIn? c) (emitIter (iterAll H f)) t.1 t.2.1 t.2.2) ∧
      ∀ x, IterReach H c x → ∃ t ∈ vis, t.1 = x := by
  obtain ⟨hd, hh, h⟩ := bind_eq_ok (iterAll_succ H f c ▸ h)
  obtain ⟨vis, hs, rfl⟩ := fifo_search h
  obtain ⟨hvis, hnd, hq, hnew⟩ := hs.spec_nil (fun x => (H.getIn? c x).isSome → IterReach H c x)
    (fun x ts ys hx hv t ht hm => by
      obtain ⟨b, _, hl, he, _⟩ := hv.targets ht
      exact .succ (hx (by rw [hl]; rfl)) hl ((emitIter_ok he).1 ▸ ht) hm)
    (fun x hx hm => by cases List.mem_singleton.mp hx; exact .head hh hm)
  refine ⟨hd, vis, hh, hnd, hs.head List.not_mem_nil, rfl, hvis, fun x hx => ?_⟩
  induction hx with
  | head h1 _ =>
    rw [hh] at h1
    cases h1
    exact hq _ List.mem_cons_self
  | succ _ hb ht _ ih =>
    obtain ⟨t, htv, rfl⟩ := ih
    obtain ⟨ys, he, _⟩ := (hvis t htv).2.member hb
    exact hnew t htv _ ((emitIter_ok he).1 ▸ ht)

/-- **`SCFG.__iter__`, a-priori, for every hierarchy and every nesting depth**: whenever the model
    answers, it yields exactly the covered names. -/
theorem iterAll_exact (H : Hier) : ∀ (f : Nat) (c : Name) (out : List Name),
    iterAll H f c = .ok out →
    (∀ x, Covered H c x → x ∈ out) ∧ (∀ x ∈ out, Covered H c x) := by
  intro f
  induction f with
  | zero => intro c out h; rw [iterAll] at h; cases h
  | succ f ih =>
    intro c out h
    obtain ⟨hd, vis, _, _, _, rfl, hvis, hcomplete⟩ := iterAll_run h
    constructor
    · intro x hx
      rw [List.mem_flatMap]
      cases hx with
      | here hr =>
        obtain ⟨b, hb⟩ := Option.isSome_iff_exists.mp hr.mem
        obtain ⟨t, ht, rfl⟩ := hcomplete x hr
        obtain ⟨ys, _, e⟩ := (hvis t ht).2.member hb
        exact ⟨t, ht, e ▸ List.mem_cons_self⟩
      | inside hr hb hreg hcov =>
        obtain ⟨t, ht, rfl⟩ := hcomplete _ hr
        obtain ⟨ys, he, e⟩ := (hvis t ht).2.member hb
        exact ⟨t, ht, e ▸ List.mem_cons_of_mem _ ((ih _ _ ((emitIter_ok he).2.1 hreg)).1 x hcov)⟩
    · intro x hx
      obtain ⟨t, ht, hxt⟩ := List.mem_flatMap.mp hx
      obtain ⟨b, ys, hb, he, e⟩ := (hvis t ht).2.yields hxt
      have hr : IterReach H c t.1 := (hvis t ht).1 (by rw [hb]; rfl)
      rw [e] at hxt
      rcases List.mem_cons.mp hxt with rfl | hy
      · exact .here hr
      · cases hreg : b.isRegion with
        | false => rw [(emitIter_ok he).2.2 hreg] at hy; cases hy
        | true => exact .inside hr hb hreg ((ih _ _ ((emitIter_ok he).2.1 hreg)).2 x hy)

/-- **`SCFG.__iter__` starts with the head.** -/
theorem iterAll_head_first (H : Hier) (f : Nat) (c : Name) (out : List Name) (hd : Name)
    (h : iterAll H f c = .ok out) (hh : findHead H c = .ok hd) (hm : (H.getIn? c hd).isSome) :
    out.head? = some hd := by
  cases f with
  | zero => rw [iterAll] at h; cases h
  | succ f =>
    obtain ⟨hd', vis, hh', _, ⟨ts, ys, tl, rfl⟩, rfl, hvis, _⟩ := iterAll_run h
    rw [hh] at hh'
    cases hh'
    obtain ⟨b, hb⟩ := Option.isSome_iff_exists.mp hm
    obtain ⟨ys', _, e⟩ := (hvis _ List.mem_cons_self).2.member hb
    rw [List.flatMap_cons, show ys = hd :: ys' from e]
    rfl

/-! ## The concealed view: exactly the members reachable through regions-as-single-nodes -/

/-- `emit` of the concealed view: the view targets, and nothing is yielded after the member itself -/
def emitView (H : Hier) (b : Blk) : M (List Name × List Name) :=
  match viewTargets H b with
  | .error e => .error e
  | .ok ts => .ok (ts, [])

theorem emitView_ok {H : Hier} {b : Blk} {ts ys : List Name} :
    emitView H b = .ok (ts, ys) ↔ viewTargets H b = .ok ts ∧ ys = [] := by
  unfold emitView
  split <;> simp_all

theorem viewGo_eq (H : Hier) (c : Name) (g : Nat) : viewGo H c g =
    fifo (H.getIn? c) (emitView H) ⟨"OutOfFuel", "region_view_iterator"⟩ g := by
  funext q s o
  -- the branches of `viewGo` are those of `fifo`, in the same order
  fun_induction viewGo H c g q s o with
  | case1 | case2 => rfl
  | case3 g n rest seen out hs ih => rw [fifo, if_pos hs, ih]
  | case4 g n rest seen out hs hl ih => rw [fifo, if_neg hs, hl, ih]
  | case5 g n rest seen out hs b hl e he => rw [fifo, if_neg hs]; simp only [hl, emitView, he]
  | case6 g n rest seen out hs b hl ts he ih =>
    rw [fifo, if_neg hs]; simp only [hl, emitView, he, ih, List.append_nil]

theorem viewIter_ok {H : Hier} {c : Name} {out : List Name} (h : viewIter H c = .ok out) :
    ∃ hd g, findHead H c = .ok hd ∧
      fifo (H.getIn? c) (emitView H) ⟨"OutOfFuel", "region_view_iterator"⟩ g [hd] [] [] = .ok out := by
  obtain ⟨hd, hh, h⟩ := bind_eq_ok h
  exact ⟨hd, _, hh, by rw [← viewGo_eq]; exact h⟩

/-- members of level `c` the concealed view gets to: the head, and every member that is a view
    successor (a region continues at its exiting block's targets) of a member it got to -/
inductive ViewReach (H : Hier) (c : Name) : Name → Prop
  | head {hd} : findHead H c = .ok hd → (H.getIn? c hd).isSome → ViewReach H c hd
  | succ {x b ts t} : ViewReach H c x → H.getIn? c x = some b → viewTargets H b = .ok ts → t ∈ ts →
      (H.getIn? c t).isSome → ViewReach H c t

/-- What holds of `seen` / `out` when the view's loop ends: only the instance at `queue = []` is built, from
    `Search.spec_nil` (`viewIter_run`). -/
structure ViewInv (H : Hier) (c : Name) (queue seen out : List Name) : Prop where
  nodup : out.Nodup
  outSeen : ∀ x ∈ out, x ∈ seen ∧ (H.getIn? c x).isSome
  seenOut : ∀ x ∈ seen, (H.getIn? c x).isSome → x ∈ out
  closed : ∀ x ∈ out, ∀ b, H.getIn? c x = some b → ∀ ts, viewTargets H b = .ok ts →
    ∀ t ∈ ts, t ∈ seen ∨ t ∈ queue

/-- the view yields the names it has marked that are members of the level, in the order it marked them -/
theorem view_yields {H : Hier} {c : Name} {vis : List (Name × List Name × List Name)}
    (h : ∀ t ∈ vis, Marks (H.getIn? c) (emitView H) t.1 t.2.1 t.2.2) :
    vis.flatMap (·.2.2) = (vis.map (·.1)).filter fun n => (H.getIn? c n).isSome := by
  induction vis with
  | nil => rfl
  | cons t vis ih =>
    rw [List.flatMap_cons, List.map_cons, List.filter_cons, ih fun u hu => h u (List.mem_cons_of_mem _ hu)]
    rcases h t List.mem_cons_self with ⟨hn, _, e⟩ | ⟨b, ys, hb, he, e⟩
    · rw [e, hn]; rfl
    · rw [e, hb, (emitView_ok.mp he).2]; rfl

/-- `Search.spec_nil` for the concealed view, in terms of `ViewInv` and `ViewReach` -/
theorem viewIter_run {H : Hier} {c : Name} {out : List Name} (h : viewIter H c = .ok out) :
    ∃ hd seen, findHead H c = .ok hd ∧ hd ∈ seen ∧ ViewInv H c [] seen out ∧
      ∀ x ∈ seen, (H.getIn? c x).isSome → ViewReach H c x := by
  obtain ⟨hd, g, hh, hrun⟩ := viewIter_ok h
  obtain ⟨vis, hs, rfl⟩ := fifo_search hrun
  obtain ⟨hvis, hnd, hq, hnew⟩ := hs.spec_nil (fun x => (H.getIn? c x).isSome → ViewReach H c x)
    (fun x ts ys hx hv t ht hm => by
      obtain ⟨b, _, hl, he, _⟩ := hv.targets ht
      exact .succ (hx (by rw [hl]; rfl)) hl (emitView_ok.mp he).1 ht hm)
    (fun x hx hm => by cases List.mem_singleton.mp hx; exact .head hh hm)
  rw [List.nil_append, view_yields fun t ht => (hvis t ht).2]
  refine ⟨hd, vis.map (·.1), hh, List.mem_map.mpr (hq hd List.mem_cons_self),
    ⟨hnd.filter _, fun x hx => List.mem_filter.mp hx, fun x hx hm => List.mem_filter.mpr ⟨hx, hm⟩, ?_⟩,
    fun x hx => ?_⟩
  · intro x hx b hb ts hts u hu
    obtain ⟨t, ht, rfl⟩ := List.mem_map.mp (List.mem_filter.mp hx).1
    obtain ⟨_, he, _⟩ := (hvis t ht).2.member hb
    cases hts.symm.trans (emitView_ok.mp he).1
    exact Or.inl (List.mem_map.mpr (hnew t ht u hu))
  · obtain ⟨t, ht, rfl⟩ := List.mem_map.mp hx
    exact (hvis t ht).1

/-- **The concealed view, exactly** (every hierarchy): whenever the model of `region_view_iterator` answers it
    yields exactly the members of the level reachable from the head with regions as single nodes. -/
theorem viewIter_exact (H : Hier) (c : Name) (out : List Name) (h : viewIter H c = .ok out) :
    ∀ x, x ∈ out ↔ ViewReach H c x := by
  obtain ⟨hd, seen, hh, hhd, hinv, hsound⟩ := viewIter_run h
  refine fun x => ⟨fun hx => hsound x (hinv.outSeen x hx).1 (hinv.outSeen x hx).2, fun hx => ?_⟩
  induction hx with
  | head h1 hm => rw [hh] at h1; cases h1; exact hinv.seenOut _ hhd hm
  | succ _ hb hts ht hm ih =>
    exact hinv.seenOut _ ((hinv.closed _ ih _ hb _ hts _ ht).resolve_right List.not_mem_nil) hm

/-- **The concealed view, a-priori, for every hierarchy.** (Under C04/C03 every member is reachable from the head;
    that is what the per-instance check `viewSpecOK` confirms on real outputs.) -/
theorem viewIter_closed (H : Hier) (c : Name) (out : List Name) (h : viewIter H c = .ok out) :
    out.Nodup ∧ (∀ x ∈ out, (H.getIn? c x).isSome) ∧
    (∀ hd, findHead H c = .ok hd → (H.getIn? c hd).isSome → hd ∈ out) ∧
    ∀ x ∈ out, ∀ b, H.getIn? c x = some b → ∀ ts, viewTargets H b = .ok ts →
      ∀ t ∈ ts, (H.getIn? c t).isSome → t ∈ out := by
  obtain ⟨hd, seen, hh, hhd, hinv, _⟩ := viewIter_run h
  refine ⟨hinv.nodup, fun x hx => (hinv.outSeen x hx).2, ?_, ?_⟩
  · intro hd' hhd' hmem
    rw [hh] at hhd'
    cases hhd'
    exact hinv.seenOut hd hhd hmem
  · intro x hx b hb ts hts t ht hmem
    exact hinv.seenOut t ((hinv.closed x hx b hb ts hts t ht).resolve_right List.not_mem_nil) hmem

/-! ## Order of the concealed view: head first, every other item after one of its predecessors -/

def HasPredIn (H : Hier) (c : Name) (ps : List Name) (x : Name) : Prop :=
  ∃ p ∈ ps, ∃ b ts, H.getIn? c p = some b ∧ viewTargets H b = .ok ts ∧ x ∈ ts

def Ordered (H : Hier) (c : Name) (out : List Name) : Prop :=
  ∀ i (hi : i < out.length), 0 < i → HasPredIn H c (out.take i) out[i]

theorem hasPredIn_mono {H : Hier} {c : Name} {ps qs : List Name} {x : Name} (h : ∀ p ∈ ps, p ∈ qs)
    (hp : HasPredIn H c ps x) : HasPredIn H c qs x := by
  obtain ⟨p, hpm, b, ts, h1, h2, h3⟩ := hp
  exact ⟨p, h p hpm, b, ts, h1, h2, h3⟩

theorem Ordered.nil {H : Hier} {c : Name} : Ordered H c [] :=
  fun _ hi => absurd hi (Nat.not_lt_zero _)

theorem Ordered.snoc {H : Hier} {c x : Name} {out : List Name} (h : Ordered H c out)
    (hx : out = [] ∨ HasPredIn H c out x) : Ordered H c (out ++ [x]) := by
  intro i hi hpos
  rw [List.length_append, List.length_singleton] at hi
  by_cases hlt : i < out.length
  · rw [List.getElem_append_left hlt, List.take_append_of_le_length (by omega)]
    exact h i hlt hpos
  · obtain rfl : i = out.length := by omega
    rcases hx with rfl | hx
    · cases hpos
    · simpa using hx

/-- **Order of the concealed view** (every hierarchy). -/
theorem viewIter_order (H : Hier) (c : Name) (out : List Name) (h : viewIter H c = .ok out) :
    Ordered H c out ∧ (∀ hd, findHead H c = .ok hd → out = [] ∨ out.head? = some hd) := by
  obtain ⟨hd, g, hh, hrun⟩ := viewIter_ok h
  obtain ⟨vis, hs, rfl⟩ := fifo_search hrun
  -- after the first visit every waiting name has a predecessor among the yielded (`r` names the list)
  have inv : ∀ {queue seen vis}, Search id (Marks (H.getIn? c) (emitView H)) queue seen vis → ∀ out,
      Ordered H c out → (out = [] ∨ out.head? = some hd) → (∀ x ∈ queue, HasPredIn H c out x) →
      ∃ r, r = out ++ vis.flatMap (·.2.2) ∧ Ordered H c r ∧ (r = [] ∨ r.head? = some hd) := by
    intro queue seen vis hs
    induction hs with
    | done => exact fun out h1 h2 _ => ⟨out, (List.append_nil _).symm, h1, h2⟩
    | skip _ _ ih => exact fun out h1 h2 h3 => ih out h1 h2 fun x hx => h3 x (List.mem_cons_of_mem _ hx)
    | @visit n rest q' seen vis ts ys _ hv hq' _ ih =>
      intro out h1 h2 h3
      rw [List.flatMap_cons, ← List.append_assoc]
      rcases hv with ⟨_, rfl, rfl⟩ | ⟨b, _, hl, he, rfl⟩
      · rw [List.append_nil]
        exact ih out h1 h2 fun x hx =>
          h3 x (List.mem_cons_of_mem _ (((hq' x).mp hx).resolve_left List.not_mem_nil))
      · obtain ⟨hts, rfl⟩ := emitView_ok.mp he
        have hp := h3 n List.mem_cons_self
        refine ih _ (h1.snoc (Or.inr hp)) (Or.inr ?_) fun x hx => ?_
        · obtain ⟨p, hp, _⟩ := hp
          rcases h2 with rfl | h2
          · cases hp
          · rw [List.head?_append, h2]; rfl
        · rcases (hq' x).mp hx with e | e
          · exact ⟨n, List.mem_append_right _ List.mem_cons_self, b, ts, hl, hts, e⟩
          · exact hasPredIn_mono (fun p => List.mem_append_left _)
              (h3 x (List.mem_cons_of_mem _ e))
  -- the first visit is the head's: it yields the head, if a member, and the head's targets wait
  cases hs with
  | skip hm _ => cases hm
  | @visit _ _ q' _ vis ts ys _ hv hq' hs =>
    obtain ⟨_, rfl, h1, h2⟩ : ∃ r, r = ys ++ vis.flatMap (·.2.2) ∧ Ordered H c r ∧
        (r = [] ∨ r.head? = some hd) := by
      rcases hv with ⟨_, rfl, rfl⟩ | ⟨b, _, hl, he, rfl⟩
      · exact inv hs [] .nil (Or.inl rfl) fun x hx => ((hq' x).mp hx).elim nofun nofun
      · obtain ⟨hts, rfl⟩ := emitView_ok.mp he
        exact inv hs [hd] (Ordered.nil.snoc (Or.inl rfl)) (Or.inr rfl) fun x hx =>
          ⟨hd, List.mem_cons_self, b, ts, hl, hts, ((hq' x).mp hx).resolve_right nofun⟩
    exact ⟨h1, fun hd' e => by rw [hh] at e; cases e; exact h2⟩

/-! ## Evaluating `__iter__`

`iterAll` is defined by well-founded recursion (through `iterAll.go`), which the kernel does not
unfold; `iterS` is the same function by structural recursion on the nesting fuel. -/

def iterS (H : Hier) : Nat → Name → M (List Name)
  | 0, _ => .error ⟨"OutOfFuel", "__iter__"⟩
  | f + 1, c =>
    findHead H c >>= fun hd => fifo (H.getIn? c) (emitIter (iterS H f)) ⟨"OutOfFuel", "__iter__"⟩
      ((H.level c).length + (H.level c).foldl (fun n x => n + x.jts.length) 0 + 4) [hd] [] []

theorem iterAll_eq_iterS (H : Hier) : ∀ f c, iterAll H f c = iterS H f c := by
  intro f
  induction f with
  | zero => intro c; rw [iterAll, iterS]
  | succ f ih => intro c; rw [iterAll_succ, iterS, funext ih]

/-! Non-vacuity: on a two-level hierarchy the model answers, and the answer is what the theorem
says (head `0`, the region, the block inside it, then `2`). -/
def okH2 : Hier := [
  { cont := "m", name := "0", jts := ["loop_region_0"] },
  { cont := "m", name := "2" },
  { cont := "m", name := "loop_region_0", kind := .region, jts := ["2"], rkind := "loop",
    header := "1", exiting := "1", parent := "m" },
  { cont := "loop_region_0", name := "1", jts := ["1", "2"], bes := ["1"] }]
def okOf (r : M (List Name)) : List Name := match r with | .ok x => x | .error _ => ["<error>"]
theorem head_m : findHead okH2 "m" = .ok "0" := by rfl
theorem head_l : findHead okH2 "loop_region_0" = .ok "1" := by rfl
theorem okH2_iter : iterAll okH2 6 "m" = .ok ["0", "loop_region_0", "1", "2"] := by
  rw [iterAll_eq_iterS]; rfl
theorem okH2_inner : iterAll okH2 5 "loop_region_0" = .ok ["1"] := by
  rw [iterAll_eq_iterS]; rfl
example : iterAll okH2 6 "m" = .ok ["0", "loop_region_0", "1", "2"] := okH2_iter
example : Covered okH2 "m" "1" := (iterAll_exact okH2 6 "m" _ okH2_iter).2 "1" (by decide)

end Scfg.C16
