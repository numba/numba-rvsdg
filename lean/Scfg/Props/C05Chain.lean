import Scfg.Props.C01Chain
/-!
# C05 — a certified run keeps every block of the input

Each step relation relates a block of the hierarchy before the step to a block with the same name, the
same kind and the same number of successors (closing may give a block without successors its single edge to
the new halting block). Along a certified chain: every block of the input graph is a block of the final
hierarchy, of the same kind, with as many successors as it had — or exactly one, if it had none.
(The payload and the positional renaming of the successors are decided on the final hierarchy by the
decider `conserved`, `Scfg.C05.conserved_sound`.)
-/
namespace Scfg.C05
open Scfg.Spec Scfg.C01

theorem step_keeps (H H' : Hier) (t : StepTag) (h : stepOK H H' t = true) (n : Name) (b : Blk)
    (hn : H.get? n = some b) :
    ∃ b', H'.get? n = some b' ∧ b'.name = b.name ∧ b'.kind = b.kind ∧
      (b'.jts.length = b.jts.length ∨ (b.jts = [] ∧ b'.jts.length = 1)) := by
  obtain ⟨b', h2, ⟨u, hr⟩ | ⟨new, hc⟩⟩ := step_block H H' t h hn
  · exact ⟨b', h2, hr.name, hr.kind, .inl hr.length.symm⟩
  · refine ⟨b', h2, hc.name, by rw [hc.fields], ?_⟩
    rcases hc.targets with e | ⟨e1, e2, _⟩
    · exact .inl (by rw [e])
    · exact .inr ⟨e1, by rw [e2]; rfl⟩

/-- **A certified run keeps every block.** -/
theorem chain_keeps_blocks : ∀ (steps : List (StepTag × Hier)) (H : Hier), chainOK H steps = true →
    ∀ (n : Name) (b : Blk), H.get? n = some b →
    ∃ b', (chainLast H steps).get? n = some b' ∧ b'.name = b.name ∧ b'.kind = b.kind ∧
      (b'.jts.length = b.jts.length ∨ (b.jts = [] ∧ b'.jts.length = 1)) := by
  intro steps
  induction steps with
  | nil => intro H _ n b hn; exact ⟨b, hn, rfl, rfl, Or.inl rfl⟩
  | cons p rest ih =>
    obtain ⟨t, H'⟩ := p
    intro H h n b hn
    simp only [chainOK, Bool.and_eq_true] at h
    obtain ⟨b1, h1, hn1, hk1, hl1⟩ := step_keeps H H' t h.1 n b hn
    obtain ⟨b2, h2, hn2, hk2, hl2⟩ := ih H' h.2 n b1 h1
    refine ⟨b2, h2, hn2.trans hn1, hk2.trans hk1, ?_⟩
    rcases hl1 with e | ⟨e1, e2⟩
    · rcases hl2 with f | ⟨f1, f2⟩
      · exact Or.inl (f.trans e)
      · right
        refine ⟨?_, f2⟩
        rw [f1] at e
        exact List.eq_nil_of_length_eq_zero e.symm
    · right
      refine ⟨e1, ?_⟩
      rcases hl2 with f | ⟨f1, _⟩
      · rw [f, e2]
      · rw [f1] at e2; cases e2

end Scfg.C05
