import Scfg.Model.Bytecode
/-!
# C09 — the graph built from bytecode is exactly the bytecode's control flow

A-priori theorems about the model of `build_basicblocks`' block cutting, for **all** flow
infos (all instruction streams, all opcode tables):

* `ranges_chain`  — consecutive blocks are contiguous: each block ends where the next begins;
* `ranges_first` / `ranges_last` — the first block begins at the smallest recorded offset, the
  last one ends right after the last instruction;
* `ranges_cover`  — every offset from the first block's begin up to the end lies in exactly one
  block (non-overlapping, gap-free), given distinct block offsets — which `fromBytecode`
  guarantees (`fromBytecode_nodup`).

Successor exactness against the interpreter's own metadata is decided per function on the
corpus (`Scfg.Model.specBlocks`); whether the opcode tables agree with the interpreter's own metadata is
checked by the harness on the regenerated tables.
-/
namespace Scfg.C09
open Scfg.Model

theorem mem_insertNat {x y : Nat} {ys : List Nat} : x ∈ insertNat y ys ↔ x = y ∨ x ∈ ys := by
  fun_induction insertNat y ys with
  | case1 => simp -- into the empty list
  | case2 => exact List.mem_cons -- `y` goes in front
  | case3 z zs _ ih => rw [List.mem_cons, ih, List.mem_cons, or_left_comm] -- `y` goes somewhere behind `z`

theorem mem_sortNat {xs : List Nat} {x : Nat} : x ∈ sortNat xs ↔ x ∈ xs := by
  induction xs with
  | nil => rfl
  | cons y ys ih => rw [sortNat, List.foldr_cons, mem_insertNat, List.mem_cons, ← ih]; rfl

def Strict : List Nat → Prop
  | [] => True
  | [_] => True
  | a :: b :: r => a < b ∧ Strict (b :: r)

theorem strict_iff_pairwise (xs : List Nat) : Strict xs ↔ xs.Pairwise (· < ·) := by
  fun_induction Strict xs with
  | case1 => exact iff_of_true trivial .nil
  | case2 => exact iff_of_true trivial (List.pairwise_singleton _ _)
  | case3 a b r ih =>
    rw [ih, List.pairwise_cons (a := a)]
    refine and_congr_left fun hbr => ⟨fun hab x hx => ?_, fun h => h b List.mem_cons_self⟩
    rcases List.mem_cons.1 hx with rfl | hx
    · exact hab
    · exact Nat.lt_trans hab (List.rel_of_pairwise_cons hbr hx)

theorem insertNat_sorted (x : Nat) (ys : List Nat) (h : ys.Pairwise (· < ·)) (hx : x ∉ ys) :
    (insertNat x ys).Pairwise (· < ·) := by
  fun_induction insertNat x ys with
  | case1 => exact List.pairwise_singleton _ _ -- into the empty list
  | case2 y ys hle => -- `x` goes in front
    have hlt : x < y := Nat.lt_of_le_of_ne hle fun e => hx (e ▸ List.mem_cons_self)
    exact List.pairwise_cons.2 ⟨fun z hz => (List.mem_cons.1 hz).elim (· ▸ hlt)
      fun hz => Nat.lt_trans hlt (List.rel_of_pairwise_cons h hz), h⟩
  | case3 y ys hle ih => -- `x` goes somewhere behind `y`
    refine List.pairwise_cons.2 ⟨fun z hz => ?_, ih h.of_cons fun hm => hx (List.mem_cons_of_mem _ hm)⟩
    rcases mem_insertNat.1 hz with rfl | hz
    · exact Nat.lt_of_not_le hle
    · exact List.rel_of_pairwise_cons h hz

theorem sortNat_strict (xs : List Nat) (h : xs.Nodup) : Strict (sortNat xs) := by
  rw [strict_iff_pairwise]
  induction xs with
  | nil => exact .nil
  | cons y ys ih =>
    have ⟨hy, hys⟩ := List.nodup_cons.1 h
    exact insertNat_sorted y _ (ih hys) fun hm => hy (mem_sortNat.1 hm)

/-- the ranges over a sorted offset list and an end offset -/
def rangesOf (xs : List Nat) (e : Nat) : List (Nat × Nat) := xs.zip (xs.drop 1 ++ [e])

theorem blockRanges_eq (fi : FlowInfo) :
    blockRanges fi = rangesOf (sortNat fi.blockOffsets) (fi.lastOffset + 2) := rfl

theorem rangesOf_length (xs : List Nat) (e : Nat) : (rangesOf xs e).length = xs.length := by
  simp only [rangesOf, List.length_zip, List.length_append, List.length_drop, List.length_singleton]
  omega

theorem rangesOf_getElem (xs : List Nat) (e i : Nat) (h : i < xs.length) :
    (rangesOf xs e)[i]'(by rw [rangesOf_length]; exact h) =
      (xs[i], (xs ++ [e])[i + 1]'(by simp; omega)) := by
  unfold rangesOf
  rw [List.getElem_zip]
  have : xs.drop 1 ++ [e] = (xs ++ [e]).drop 1 := by
    rw [List.drop_append_of_le_length (by omega)]
  simp only [this, List.getElem_drop, Nat.add_comm 1 i]

/-- **Contiguity.** Each block ends exactly where the next one begins. -/
theorem ranges_chain (xs : List Nat) (e : Nat) :
    ∀ i (h1 : i + 1 < (rangesOf xs e).length),
      ((rangesOf xs e)[i]'(by omega)).2 = ((rangesOf xs e)[i + 1]'h1).1 := by
  intro i h1
  have h : i + 1 < xs.length := rangesOf_length xs e ▸ h1
  rw [rangesOf_getElem xs e i (by omega), rangesOf_getElem xs e (i + 1) h]
  exact List.getElem_append_left h

/-- The first block begins at the smallest offset; the last block ends at the end offset. -/
theorem ranges_first (a : Nat) (r : List Nat) (e : Nat) :
    ((rangesOf (a :: r) e).head?).map (·.1) = some a := by
  cases r <;> rfl

theorem ranges_last (xs : List Nat) (e : Nat) (hne : xs ≠ []) :
    ((rangesOf xs e).getLast?).map (·.2) = some e := by
  have hpos := List.length_pos_iff.2 hne
  have hl : xs.length - 1 < xs.length := Nat.sub_lt hpos Nat.one_pos
  rw [List.getLast?_eq_getElem?, rangesOf_length,
    List.getElem?_eq_getElem (by rw [rangesOf_length]; exact hl), rangesOf_getElem _ _ _ hl]
  simp [Nat.sub_add_cancel hpos]

theorem rangesOf_cons2 (a b : Nat) (r : List Nat) (e : Nat) :
    rangesOf (a :: b :: r) e = (a, b) :: rangesOf (b :: r) e := rfl

theorem le_fst_of_mem_rangesOf {b : Nat} {r : List Nat} {e : Nat} {q : Nat × Nat}
    (hs : Strict (b :: r)) (hq : q ∈ rangesOf (b :: r) e) : b ≤ q.1 := by
  rcases List.mem_cons.1 (List.of_mem_zip hq).1 with h | h
  · exact Nat.le_of_eq h.symm
  · exact Nat.le_of_lt (List.rel_of_pairwise_cons ((strict_iff_pairwise _).1 hs) h)

/-- `ranges_cover` does not need that the offsets lie before the end. -/
theorem rangesOf_cover (xs : List Nat) (e : Nat) (hs : Strict xs) :
    ∀ o, (∃ a r, xs = a :: r ∧ a ≤ o) → o < e →
      ∃ p ∈ rangesOf xs e, (p.1 ≤ o ∧ o < p.2) ∧
        ∀ q ∈ rangesOf xs e, (q.1 ≤ o ∧ o < q.2) → q = p := by
  induction xs with
  | nil => intro o ⟨a, r, h, _⟩; cases h
  | cons a r ih =>
    intro o ⟨_, _, hx, hao⟩ hoe
    cases hx
    cases r with
    | nil => exact ⟨(a, e), List.mem_singleton.2 rfl, ⟨hao, hoe⟩, fun q hq _ => List.mem_singleton.1 hq⟩
    | cons b r =>
      rw [rangesOf_cons2]
      by_cases hob : o < b
      · refine ⟨(a, b), List.mem_cons_self, ⟨hao, hob⟩, fun q hq hqo => ?_⟩
        rcases List.mem_cons.mp hq with e1 | e1
        · exact e1
        · -- later ranges begin at or after b
          exact absurd (Nat.lt_of_le_of_lt (le_fst_of_mem_rangesOf hs.2 e1) (Nat.lt_of_le_of_lt hqo.1 hob))
            (Nat.lt_irrefl _)
      · obtain ⟨p, hp, hpo, huniq⟩ := ih hs.2 o ⟨b, r, rfl, Nat.le_of_not_lt hob⟩ hoe
        refine ⟨p, List.mem_cons_of_mem _ hp, hpo, fun q hq hqo => ?_⟩
        rcases List.mem_cons.mp hq with e1 | e1
        · exact absurd (e1 ▸ hqo).2 hob
        · exact huniq q e1 hqo

/-- **Non-overlapping and gap-free.** With strictly increasing offsets whose last one lies
    before the end, every offset `o` from the first begin up to the end lies in exactly one
    block range. -/
theorem ranges_cover (xs : List Nat) (e : Nat) (hs : Strict xs) (hlast : ∀ x ∈ xs, x < e) :
    ∀ o, (∃ a r, xs = a :: r ∧ a ≤ o) → o < e →
      ∃ p ∈ rangesOf xs e, (p.1 ≤ o ∧ o < p.2) ∧
        ∀ q ∈ rangesOf xs e, (q.1 ≤ o ∧ o < q.2) → q = p :=
  rangesOf_cover xs e hs

/-! ## `from_bytecode`, restated with named parts (definitionally the model) -/

/-- marking the start of a block at offset 0 and at jump targets -/
def markStart (fi : FlowInfo) (inst : Ins) : FlowInfo :=
  if inst.off == 0 || inst.isTarget then { fi with blockOffsets := addOff fi.blockOffsets inst.off } else fi

/-- recording a jump instruction with its targets -/
def addJ (o : Nat) (fi : FlowInfo) (ts : List Nat) : FlowInfo :=
  { fi with blockOffsets := ts.foldl addOff fi.blockOffsets, jumpInsts := jumpSet fi.jumpInsts o ts }

def classify (T : OpTables) (fi : FlowInfo) (inst : Ins) : FlowInfo :=
  if T.cond.contains inst.op then addJ inst.off fi [inst.off + 2, inst.arg]
  else if T.uncond.contains inst.op then addJ inst.off fi [inst.arg]
  else if T.term.contains inst.op then addJ inst.off fi []
  else fi

/-- one iteration of the loop in `from_bytecode` -/
def stepIns (T : OpTables) (fi : FlowInfo) (inst : Ins) : FlowInfo :=
  { classify T (markStart fi inst) inst with lastOffset := inst.off }

theorem fromBytecode_eq (T : OpTables) (is : List Ins) : fromBytecode T is = is.foldl (stepIns T) {} := rfl

def classified (T : OpTables) (i : Ins) : Bool :=
  T.cond.contains i.op || T.uncond.contains i.op || T.term.contains i.op

theorem classify_cases (T : OpTables) (fi : FlowInfo) (inst : Ins) :
    (classified T inst = false ∧ classify T fi inst = fi) ∨
      ∃ ts, classify T fi inst = addJ inst.off fi ts := by
  unfold classify classified
  cases T.cond.contains inst.op
  · cases T.uncond.contains inst.op
    · cases T.term.contains inst.op
      · exact .inl ⟨rfl, rfl⟩
      · exact .inr ⟨_, rfl⟩
    · exact .inr ⟨_, rfl⟩
  · exact .inr ⟨_, rfl⟩

theorem fromBytecode_inv (P : FlowInfo → Prop) (h0 : P {})
    (hoff : ∀ fi o, P fi → P { fi with blockOffsets := addOff fi.blockOffsets o })
    (haddJ : ∀ fi o ts, P fi → P (addJ o fi ts))
    (hlast : ∀ fi o, P fi → P { fi with lastOffset := o }) (T : OpTables) (is : List Ins) :
    P (fromBytecode T is) := by
  rw [fromBytecode_eq]
  refine List.foldlRecOn is (stepIns T) h0 fun fi hfi i _ => hlast _ _ ?_
  have hm : P (markStart fi i) := by
    unfold markStart; split
    · exact hoff _ _ hfi
    · exact hfi
  rcases classify_cases T (markStart fi i) i with ⟨_, h⟩ | ⟨ts, h⟩
  · rw [h]; exact hm
  · rw [h]; exact haddJ _ _ _ hm

/-! ### `addOff` is insertion into a set -/

theorem mem_addOff {s : List Nat} {o x : Nat} : x ∈ addOff s o ↔ x ∈ s ∨ x = o := by
  unfold addOff
  split
  · next h => exact ⟨Or.inl, fun hx => hx.elim id (· ▸ List.contains_iff_mem.1 h)⟩
  · exact List.mem_append.trans (or_congr_right List.mem_singleton)

theorem mem_foldl_addOff (ts : List Nat) : ∀ (s : List Nat) (x : Nat),
    x ∈ ts.foldl addOff s ↔ x ∈ s ∨ x ∈ ts := by
  induction ts with
  | nil => intro s x; simp
  | cons t ts ih =>
    intro s x
    rw [List.foldl_cons, ih, mem_addOff, List.mem_cons, or_assoc]

theorem addOff_nodup {s : List Nat} (o : Nat) (h : s.Nodup) : (addOff s o).Nodup := by
  unfold addOff
  split
  · exact h
  · next hc =>
    refine List.nodup_append.2 ⟨h, by simp, fun a ha b hb => ?_⟩
    rw [List.mem_singleton.1 hb]
    exact fun e => hc (List.contains_iff_mem.2 (e ▸ ha))

theorem foldl_addOff_nodup (ts : List Nat) (s : List Nat) (h : s.Nodup) :
    (ts.foldl addOff s).Nodup :=
  List.foldlRecOn ts addOff h fun _ hs t _ => addOff_nodup t hs

/-- `block_offsets` is a set: the model never records an offset twice, whatever the stream and
    the tables. -/
theorem fromBytecode_nodup (T : OpTables) (is : List Ins) : (fromBytecode T is).blockOffsets.Nodup :=
  fromBytecode_inv (·.blockOffsets.Nodup) List.nodup_nil (fun _ o h => addOff_nodup o h)
    (fun _ _ _ h => foldl_addOff_nodup _ _ h) (fun _ _ h => h) T is

/-- **Blocks of the model are contiguous, non-overlapping and gap-free**, for every stream and
    every table: the recorded offsets sort strictly, hence `ranges_chain` / `ranges_cover` apply
    to `blockRanges (fromBytecode T is)`. -/
theorem blockRanges_strict (T : OpTables) (is : List Ins) :
    Strict (sortNat (fromBytecode T is).blockOffsets) :=
  sortNat_strict _ (fromBytecode_nodup T is)

/-! Non-vacuity: a stream with a conditional jump (`0: LOAD, 2: POP_JUMP_IF_FALSE→8, 4: LOAD,
6: RETURN_VALUE, 8: LOAD, 10: RETURN_VALUE`). -/
def exT : OpTables := { cond := ["POP_JUMP_IF_FALSE"], uncond := ["JUMP_FORWARD"], term := ["RETURN_VALUE"] }
def exIs : List Ins := [
  { off := 0, op := "LOAD_FAST", arg := 0, isTarget := false },
  { off := 2, op := "POP_JUMP_IF_FALSE", arg := 8, isTarget := false },
  { off := 4, op := "LOAD_CONST", arg := 0, isTarget := false },
  { off := 6, op := "RETURN_VALUE", arg := 0, isTarget := false },
  { off := 8, op := "LOAD_CONST", arg := 0, isTarget := true },
  { off := 10, op := "RETURN_VALUE", arg := 0, isTarget := false }]
example : blockRanges (fromBytecode exT exIs) = [(0, 4), (4, 8), (8, 12)] := by decide +kernel

/-! ## Instruction retrieval (`get_instructions`)

The loop hands out exactly the instructions of the block's range: an offset is returned iff the
map knows it, it lies in `[begin, end)` and is a whole number of code units after `begin`; the
result is strictly increasing, so no instruction is handed out twice. With `ranges_cover` (the
ranges tile `[0, last)`) every instruction of the stream is handed out by exactly one block. -/

theorem getInstrs_eq (offs : List Nat) (e : Nat) : ∀ (f it : Nat),
    getInstrs offs f it e = (List.range' it f 2).filter fun o => o < e && offs.contains o := by
  intro f it
  fun_induction getInstrs offs f it e with
  | case1 => rfl -- no fuel
  | case2 f it e hlt ih => -- inside the range: `it` is the head of `range'`
    rw [List.range'_succ, List.filter_cons, ih, decide_eq_true hlt, Bool.true_and]
    split <;> rfl
  | case3 f it e hlt => -- beyond the end the walk stops, and the filter keeps nothing
    refine (List.filter_eq_nil_iff.2 fun o ho => ?_).symm
    obtain ⟨k, _, rfl⟩ := List.mem_range'.1 ho
    rw [decide_eq_false (by omega), Bool.false_and]
    exact Bool.false_ne_true

theorem mem_getInstrs (offs : List Nat) (e f it o : Nat) :
    o ∈ getInstrs offs f it e ↔ (∃ k < f, o = it + 2 * k) ∧ o < e ∧ o ∈ offs := by
  simp only [getInstrs_eq, List.mem_filter, List.mem_range', Bool.and_eq_true,
    decide_eq_true_eq, List.contains_iff_mem]

/-- Strictly increasing: no instruction is returned twice. -/
theorem getInstrs_sorted (offs : List Nat) (e : Nat) :
    ∀ (f it : Nat), (getInstrs offs f it e).Pairwise (· < ·) := by
  intro f it
  rw [getInstrs_eq]
  exact List.Pairwise.filter _ (List.pairwise_lt_range' 2)

/-- **`get_instructions` returns exactly the instructions of the block's range** (even offsets, as
    CPython's are): membership is "known to the map and inside `[begin, end)`". -/
theorem getInstructions_spec (offs : List Nat) (b e o : Nat) (hb : b % 2 = 0)
    (heven : ∀ x ∈ offs, x % 2 = 0) :
    o ∈ getInstructions offs b e ↔ o ∈ offs ∧ b ≤ o ∧ o < e := by
  unfold getInstructions
  rw [mem_getInstrs]
  constructor
  · rintro ⟨⟨k, _, rfl⟩, h2, h1⟩; exact ⟨h1, Nat.le_add_right _ _, h2⟩
  · rintro ⟨h1, h2, h3⟩
    obtain ⟨k, hk⟩ : 2 ∣ o - b :=
      Nat.dvd_sub (Nat.dvd_of_mod_eq_zero (heven o h1)) (Nat.dvd_of_mod_eq_zero hb)
    obtain rfl : o = b + 2 * k := (Nat.sub_eq_iff_eq_add' h2).1 hk
    exact ⟨⟨k, by omega, rfl⟩, h3, h1⟩

example : getInstructions [0, 2, 4, 6, 8, 10] 4 8 = [4, 6] := by decide
example : getInstructions [0, 2, 8, 10] 2 10 = [2, 8] := by decide  -- inline-cache gap skipped

end Scfg.C09
