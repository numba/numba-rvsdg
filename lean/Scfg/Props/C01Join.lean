import Scfg.Props.C14Join
import Scfg.Props.C01
import Scfg.Props.C01Frame
/-!
# C01, first stage — closing the graph preserves every execution path (a priori)

`joinReturns_preserves_paths`: for **every** flat graph of original blocks with unique names, no
dangling target and no block under the return block's fresh name, the hierarchy the model of `join_returns` produces, walked by name, shows from
every block exactly the trace the input graph shows from that block — the same blocks in the same
order, the same number of decisions offered, stopping at the same place — under every decision
sequence of any length. (The former exits gain one edge to the common synthetic return; the
semantics counts a block whose only continuation halts without meeting an original block as
offering no decision, which is exactly the clause "execution stops exactly where the original
stops".) No enumeration: the relation "same block, same valuation" is a simulation (`closes_paths`).
-/
namespace Scfg.C01
open Scfg.Model Scfg.C14 Scfg.C04

/-- the input of the pipeline: a flat graph of original blocks -/
structure FlatInput (G : Hier) (c : Name) : Prop where
  flat : ∀ b ∈ G, b.cont = c
  orig : ∀ b ∈ G, b.isOrig = true
  nobes : ∀ b ∈ G, b.bes = []
  unique : G.names.Nodup
  closed : ∀ b ∈ G, ∀ t ∈ b.jts, ∃ x, G.get? t = some x

/-- the result of closing the graph, pointwise, for a flat input of original blocks -/
structure Closed (G H : Hier) (c ret : Name) : Prop where
  flat : ∀ b ∈ H, b.cont = c
  keep : ∀ n g, G.get? n = some g → g.jts ≠ [] → H.get? n = some g
  /-- a former exit is unchanged or got exactly the edge to the common return -/
  exit : ∀ n g, G.get? n = some g → g.jts = [] →
    H.get? n = some g ∨ (H.get? n = some { g with jts := [ret] } ∧ H.get? ret = some (retBlk c ret))

/-- **The simulation**, from what it needs. `G`: original blocks, no dangling target. `H`: every block of `G`
    under its name, unchanged, or, if it had no successor, with the one edge to the return block. Then the walk
    over `H` shows, from every block, the traces of `G`: for either treatment of the latches, every valuation and
    every fuel. `flat_paths` is the case `H = G`. -/
theorem closes_paths (G H : Hier) (c ret : Name) (consume : Bool) (R F : Nat)
    (orig : ∀ n g, G.get? n = some g → g.isOrig = true)
    (closed : ∀ n g, G.get? n = some g → ∀ t ∈ g.jts, ∃ x, G.get? t = some x)
    (held : ∀ n g, G.get? n = some g → H.get? n = some g ∨
      (g.jts = [] ∧ H.get? n = some { g with jts := [ret] } ∧ H.get? ret = some (retBlk c ret))) :
    ∀ (ds : List Nat) (n : Name) (g : Blk) (val : Val), G.get? n = some g →
      run (sysOrig G) (some n) ds = run (sysF H consume (R + 1) (F + 1)) (.at n val) ds := by
  intro ds n g val hg
  -- from a target that names a block of `G` the walk arrives there at once: it is an original block of `H` too
  have adv : ∀ {t y}, G.get? t = some y → ∀ v, advF H consume (R + 1) (F + 1) t v = .at t v := by
    intro t y hy v
    have hyn := (get?_mem hy).2
    rcases held t y hy with e | ⟨_, e, _⟩
    · rw [advF_orig e (orig t y hy) F v, hyn]
    · rw [advF_orig e (orig t y hy) F v, hyn]
  rw [sysF_eq_walkSys]
  refine run_eq_of_closed (sysOrig G) _
    (fun p => ∃ m x v, G.get? m = some x ∧ p = (some m, WState.at m v)) ?_ ?_ ds _ _ ⟨n, g, val, hg, rfl⟩
  · rintro p ⟨m, x, v, hx, rfl⟩
    rw [orig_obs G m x hx]
    rcases held m x hx with h1 | ⟨hj, h1, h2⟩
    · rw [walkSys_obs h1, arityIn_eq, if_neg]
      -- a single continuation does not halt: it stands on the target
      rintro ⟨h1, h2⟩
      obtain ⟨t, ht⟩ := List.length_eq_one_iff.mp h1
      obtain ⟨y, hy⟩ := closed m x hx t (ht ▸ List.mem_singleton_self t)
      rw [stepF_some (by rw [ht]; rfl), adv hy] at h2
      cases h2
    · -- an exit that got the edge: the return block is a concrete block without successor, running it halts
      rw [walkSys_obs h1, arityIn_eq, if_pos ⟨rfl, advF_halt h2 rfl rfl rfl F⟩, hj]
      rfl
  · rintro p ⟨m, x, v, hx, rfl⟩ i hi
    rw [orig_obs G m x hx] at hi
    have hti : x.jts[i]? = some x.jts[i] := List.getElem?_eq_getElem hi
    obtain ⟨y, hy⟩ := closed m x hx x.jts[i] (List.getElem_mem hi)
    refine ⟨x.jts[i], y, v, hy, ?_⟩
    rw [orig_step G m x i hx, hti, walkSys_step ((held m x hx).resolve_right fun h => by rw [h.1] at hi; cases hi),
      stepF_some hti, adv hy]

theorem closed_paths (G H : Hier) (c ret : Name) (hG : FlatInput G c) (hC : Closed G H c ret) :
    ∀ n g, G.get? n = some g → ∀ ds,
      run (sysOrig G) (some n) ds = run (sysName H false) (.at n []) ds := by
  intro n g hg ds
  rw [sysName_eq_sysF]
  refine closes_paths G H c ret false _ _ (fun _ g hg => hG.orig g (get?_mem hg).1)
    (fun _ g hg => hG.closed g (get?_mem hg).1) (fun n g hg => ?_) ds n g [] hg
  by_cases hj : g.jts = []
  · exact (hC.exit n g hg hj).imp_right fun h => ⟨hj, h⟩
  · exact .inl (hC.keep n g hg hj)

theorem exitsOf_flat (G : Hier) (c : Name) (hG : FlatInput G c) (n : Name) :
    n ∈ exitsOf G c ↔ ∃ g, G.get? n = some g ∧ g.jts = [] := by
  constructor
  · intro h
    obtain ⟨b, hb, rfl⟩ := List.mem_map.mp h
    obtain ⟨hb, hjt⟩ := List.mem_filter.mp hb
    have hbG := (mem_level.mp hb).1
    -- without declared back edges `jt` is `jts`
    rw [jt_of_bes_nil (hG.nobes b hbG), List.isEmpty_iff] at hjt
    exact ⟨b, get?_of_mem hG.unique hbG, hjt⟩
  · rintro ⟨g, hg, hj⟩
    exact mem_exitsOf (get?_flat G c n hG.flat ▸ hg) (by rw [Blk.jt, hj]; rfl)

/-- a flat input meets the hypotheses of `joinReturns_lookup` (and of `C02.joinReturns_total`), for any name `x`
    that is not one of its blocks -/
theorem FlatInput.exits {G : Hier} {c : Name} (hG : FlatInput G c) {x : Name} (hx : x ∉ G.names) :
    (exitsOf G c).Nodup ∧
    (∀ p ∈ exitsOf G c, ∃ b, G.getIn? c p = some b ∧ b.isRegion = false ∧ b.kind.isBranching = false) ∧
    ∀ p ∈ exitsOf G c, p ≠ x := by
  refine ⟨exitsOf_nodup hG.unique c, fun p hp => ?_, fun p hp => ?_⟩
  · obtain ⟨g, hg, _⟩ := (exitsOf_flat G c hG p).mp hp
    exact ⟨g, get?_flat G c p hG.flat ▸ hg, isOrig_not (hG.orig g (get?_mem hg).1)⟩
  · obtain ⟨_, hg, _⟩ := (exitsOf_flat G c hG p).mp hp
    exact ne_of_get? hg hx

/-- **`join_returns` on a flat input, pointwise by name.** With at most one exit nothing changes;
    otherwise the result is flat, holds the return block under the fresh name, and every input block
    under its own name, an exit with the one edge to the return block. -/
theorem joinReturns_flat (G : Hier) (c : Name) (ng : NameGen) (st' : St) (hG : FlatInput G c)
    (hfresh : (ng.newBlockName "synth_return").1 ∉ G.names)
    (h : joinReturns { H := G, ng := ng } c = .ok st') :
    st'.H = G ∨ ((∀ b ∈ st'.H, b.cont = c) ∧ ∀ n, st'.H.get? n =
      if n = (ng.newBlockName "synth_return").1 then some (retBlk c (ng.newBlockName "synth_return").1)
      else (G.get? n).map fun g =>
        if g.jts = [] then { g with jts := [(ng.newBlockName "synth_return").1] } else g) := by
  obtain ⟨hnd, hplain, hfr⟩ := hG.exits hfresh
  have look := of_ok (joinReturns_lookup { H := G, ng := ng } c hnd hplain hfr) h
  by_cases hlen : (exitsOf G c).length > 1
  · right
    replace look := look.1 hlen
    have hflat : ∀ b ∈ st'.H, b.cont = c := by
      intro b hb
      by_cases hc : b.cont = c
      · exact hc
      · -- an entry of another container would be an entry of the input
        have hs := getIn?_of_mem hb
        rw [look, if_neg fun h => hc h.1, if_neg fun h => hc h.1] at hs
        obtain ⟨x, hx⟩ := Option.isSome_iff_exists.mp hs
        obtain ⟨hxm, hxc, _⟩ := getIn?_mem hx
        exact hxc ▸ hG.flat x hxm
    refine ⟨hflat, fun n => ?_⟩
    rw [get?_flat st'.H c n hflat, look, ← get?_flat G c n hG.flat]
    by_cases hn : n = (ng.newBlockName "synth_return").1
    · rw [if_pos ⟨rfl, hn⟩, if_pos hn]
    · rw [if_neg fun h => hn h.2, if_neg hn]
      cases hg : G.get? n with
      | none => simp only [Option.map_none, ite_self]
      | some g =>
        by_cases hj : g.jts = []
        · rw [if_pos ⟨rfl, (exitsOf_flat G c hG n).mpr ⟨g, hg, hj⟩⟩, Option.map_some, Option.map_some,
            if_pos hj, hj]
          rfl
        · have : n ∉ exitsOf G c := fun hp => by
            obtain ⟨g', hg', hj'⟩ := (exitsOf_flat G c hG n).mp hp
            exact hj (Option.some.inj (hg.symm.trans hg') ▸ hj')
          rw [if_neg fun h => this h.2, Option.map_some, if_neg hj]
  · left
    rw [look.2 hlen]

theorem joinReturns_closed (G : Hier) (c : Name) (ng : NameGen) (st' : St) (hG : FlatInput G c)
    (hfresh : (ng.newBlockName "synth_return").1 ∉ G.names)
    (h : joinReturns { H := G, ng := ng } c = .ok st') :
    Closed G st'.H c (ng.newBlockName "synth_return").1 := by
  rcases joinReturns_flat G c ng st' hG hfresh h with e | ⟨hflat, look⟩
  · rw [e]
    exact ⟨hG.flat, fun n g hg _ => hg, fun n g hg _ => Or.inl hg⟩
  · refine ⟨hflat, fun n g hg hj => ?_, fun n g hg hj => Or.inr ⟨?_, ?_⟩⟩
    · rw [look, if_neg (ne_of_get? hg hfresh), hg, Option.map_some, if_neg hj]
    · rw [look, if_neg (ne_of_get? hg hfresh), hg, Option.map_some, if_pos hj]
    · rw [look, if_pos rfl]

/-- **Closing the graph preserves every execution path** (model of `join_returns`, every flat
    closed input, every decision sequence of any length, from every block). -/
theorem joinReturns_preserves_paths (G : Hier) (c : Name) (ng : NameGen) (st' : St)
    (hG : FlatInput G c) (hfresh : (ng.newBlockName "synth_return").1 ∉ G.names)
    (h : joinReturns { H := G, ng := ng } c = .ok st') :
    ∀ n g, G.get? n = some g → ∀ ds,
      run (sysOrig G) (some n) ds = run (sysName st'.H false) (.at n []) ds :=
  closed_paths G st'.H c _ hG (joinReturns_closed G c ng st' hG hfresh h)

/-! Non-vacuity: a diamond with two exits is a `FlatInput`. -/
def exTwoExits : Hier := [
  { cont := "m", name := "0", jts := ["1", "2"] },
  { cont := "m", name := "1" },
  { cont := "m", name := "2" }]
example : FlatInput exTwoExits "m" :=
  ⟨by decide +kernel, by decide +kernel, by decide +kernel, by decide +kernel, fun b hb t ht =>
    Option.isSome_iff_exists.mp
      ((by decide +kernel : ∀ b ∈ exTwoExits, ∀ t ∈ b.jts, (exTwoExits.get? t).isSome = true) b hb t ht)⟩

end Scfg.C01
