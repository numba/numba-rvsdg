import Scfg.Props.C01Wrap
import Scfg.Props.C14Join
/-!
# C14 / C01 — routing arcs through an inserted block leaves every path unchanged (a priori)

`Spliced H H' new s`: `H'` is `H` plus a fresh non-branching, non-assigning synthetic block `new → s`,
where blocks may have had occurrences of the target `s` replaced by `new`, in the successor tuple and, for a
block that branches on a variable, consistently in its value table (what `insert_block` with one successor
does to its predecessors: `SyntheticTail` / `SyntheticExit` / `SyntheticFill` / `SyntheticReturn` insertion),
everything else being equal.

`spliced_paths`: for every such pair and **every** fuel, from every walk state other than the inserted
block itself, if the walk over `H'` meets no error then the walk over `H` shows exactly the same trace
under every decision sequence of any length: the same original blocks in the same order, offering
the same decisions, stopping at the same place.
-/
namespace Scfg.C14
open Scfg.C01 Scfg.C04

/-- undo the insertion on a target name -/
def unsplice (new s : Name) (x : Name) : Name := if x == new then s else x

/-- `b'` is `b` with some targets `s` replaced by `new`, in the successor tuple and (for a block that
    branches on a variable) in its value table, consistently -/
structure SameUpTo (new s : Name) (b b' : Blk) : Prop where
  fields : b' = { b with jts := b'.jts, tbl := b'.tbl }
  targets : b'.jts.map (unsplice new s) = b.jts
  tbl : ∀ x : Int, (b.tbl.find? (fun p => p.1 == x)).map (·.2) =
    ((b'.tbl.find? (fun p => p.1 == x)).map (·.2)).map (unsplice new s)
  inj : b.kind.isBranching = true → ∀ x ∈ b'.jts, ∀ y ∈ b'.jts, unsplice new s x = unsplice new s y → x = y

structure Spliced (H H' : Hier) (new s : Name) : Prop where
  sNe : s ≠ new
  newBlk : ∃ nb, H'.get? new = some nb ∧ nb.isRegion = false ∧ nb.isOrig = false ∧
    nb.kind.isBranching = false ∧ nb.kind ≠ .synthAssign ∧ nb.jts = [s]
  rel : ∀ n, n ≠ new → (H.get? n = none ∧ H'.get? n = none) ∨
    ∃ b b', H.get? n = some b ∧ H'.get? n = some b' ∧ SameUpTo new s b b'
  hdrFresh : ∀ n b, H.get? n = some b → b.header ≠ new

theorem SameUpTo.ren {new s : Name} {b b' : Blk} (h : SameUpTo new s b b') : Ren (unsplice new s) b b' := by
  have hf := h.fields
  exact ⟨by rw [hf], by rw [hf], by rw [hf], by rw [hf], h.targets, h.tbl, h.inj⟩

theorem sameUpTo_basic {new s : Name} {b b' : Blk} (h : SameUpTo new s b b') :
    b'.name = b.name ∧ b'.kind = b.kind ∧ b'.isRegion = b.isRegion ∧ b'.isOrig = b.isOrig ∧
    b'.header = b.header ∧ b'.var = b.var ∧ b'.asg = b.asg ∧
    b'.jts.length = b.jts.length :=
  ⟨h.ren.name, h.ren.kind, h.ren.isRegion, h.ren.isOrig, by rw [h.fields], h.ren.var, h.ren.asg,
    h.ren.length.symm⟩

theorem resolve_rel (H H' : Hier) (new s : Name) (hS : Spliced H H' new s) : ∀ R n, n ≠ new →
    (resolve H R n = none ∧ resolve H' R n = none) ∨
    ∃ b b', resolve H R n = some b ∧ resolve H' R n = some b' ∧ SameUpTo new s b b' := fun R n hn =>
  (resolve_sim hS.rel (fun _ _ h => ⟨h.ren.isRegion, by rw [h.fields]⟩)
    (fun n b hg _ => hS.hdrFresh n b hg) R n hn).imp_right
    fun ⟨b, b', h1, h2, h, _⟩ => ⟨b, b', h1, h2, h⟩

theorem synthExec_rel {new s : Name} {b b' : Blk} (hsame : SameUpTo new s b b') (consume : Bool) (val : Val)
    (res : Val × Option Nat) (hok : synthExec consume b' val = .ok res) : synthExec consume b val = .ok res :=
  hsame.ren.synthExec hok

-- `unsplice` is `unwrap`: one renaming, under the name each relation's statement uses
theorem unsplice_of_ne {new s x : Name} (h : x ≠ new) : unsplice new s x = x := unwrap_of_ne h

theorem unsplice_self (new s : Name) : unsplice new s new = s := unwrap_self new s

/-- The walk over `H` passes the same blocks except the inserted one. By strong induction on the count, not on
    `Adv`: behind the inserted block the hypothesis is needed at another start name, with a smaller count. -/
theorem adv_unsplice {H H' : Hier} {new s : Name} (hS : Spliced H H' new s) {consume : Bool} {R : Nat} :
    ∀ {k n val r}, Adv H' consume R k n val r → Adv H consume R k (unsplice new s n) val r := by
  intro k
  induction k using Nat.strongRecOn with
  | _ k ih =>
    intro n val r h
    by_cases hn : n = new
    · -- the inserted block: one step to `s`
      obtain ⟨k0, rfl, h0⟩ := h.skip (hn ▸ hS.newBlk)
      rw [hn, unsplice_self, ← unsplice_of_ne hS.sNe]
      exact (ih k0 (Nat.lt_succ_self _) h0).mono (Nat.le_succ _)
    · rw [unsplice_of_ne hn]
      have rel := fun {x'} (hx' : resolve H' R n = some x') => left_of_rel (resolve_rel H H' new s hS R n hn) hx'
      cases h with
      | orig hb ho =>
        obtain ⟨x, hx, hsame⟩ := rel hb
        exact hsame.ren.name ▸ .orig hx (hsame.ren.isOrig ▸ ho)
      | halt hb ho he =>
        obtain ⟨x, hx, hsame⟩ := rel hb
        exact .halt hx (hsame.ren.isOrig ▸ ho) (hsame.ren.synthExec he)
      | next hb ho he ht hd =>
        obtain ⟨x, hx, hsame⟩ := rel hb
        exact .next hx (hsame.ren.isOrig ▸ ho) (hsame.ren.synthExec he) (hsame.ren.getElem? ht)
          (ih _ (Nat.lt_succ_self _) hd)

/-- `adv_unsplice` at `advF` -/
theorem adv_rel (H H' : Hier) (new s : Name) (hS : Spliced H H' new s) (consume : Bool) (R : Nat) :
    ∀ F n val r, advF H' consume R F n val = r → r.isErr = false →
      advF H consume R F (unsplice new s n) val = r := by
  intro F n val r h hr
  obtain ⟨k, hk, hd⟩ := adv_of_advF h hr
  exact advF_of_adv (adv_unsplice hS hd) F hk

/-- the states that are compared: everything except standing on the inserted block -/
def NotNew (new : Name) : WState → Prop
  | .at n _ => n ≠ new
  | _ => True

theorem notNew_eq_notAt (new : Name) : NotNew new = NotAt new := by
  funext s; cases s <;> rfl

/-- **Splicing a block into arcs leaves every path unchanged.** -/
theorem spliced_paths (H H' : Hier) (new s : Name) (hS : Spliced H H' new s) (consume : Bool) (R F : Nat) :
    ∀ (ds : List Nat) (st : WState), NotNew new st → CleanRun (sysF H' consume R F) st →
      run (sysF H consume R F) st ds = run (sysF H' consume R F) st ds := by
  intro ds st hna hc
  rw [notNew_eq_notAt] at hna
  refine walk_sim (Q := fun n va vb => va = vb ∧ n ≠ new) ?_ ds st st
    (stSim_notAt (clean_state hc) hna) hc
  rintro n va _ ⟨rfl, hn⟩
  refine (hS.rel n hn).imp_right fun ⟨b, b', h1, h2, hsame⟩ => ⟨b, b', h1, h2, ?_⟩
  refine arityIn_sim hsame.ren.length (stepF_ren hsame.ren fun t' _ hne => ?_)
  rw [adv_rel H H' new s hS consume R F t' va _ rfl hne]
  obtain ⟨nb, hg, _, hor, _⟩ := hS.newBlk
  exact stSim_notAt hne (advF_notAt fun b hb => Option.some.inj (hg ▸ hb) ▸ hor)

/-! ## The model of `insert_block` with one successor produces such a pair -/

theorem map_unsplice_id (new s : Name) (xs : List Name) (h : new ∉ xs) : xs.map (unsplice new s) = xs := by
  induction xs with
  | nil => rfl
  | cons x xs ih =>
    simp only [List.mem_cons, not_or] at h
    simp only [List.map_cons, ih h.2]
    rw [unsplice_of_ne (fun e => h.1 e.symm)]

/-- what `insert_block(new, P, [s])` makes of a plain predecessor's targets, when `new` is fresh -/
theorem newTargets_one (new s : Name) (b : Blk) (h : new ∉ b.jts) :
    (newTargets new [s] b).map (unsplice new s) = b.jts := by
  rw [newTargets, if_neg (by simp), List.filter_cons, List.filter_nil]
  cases b.bes.contains s with
  | true => exact map_unsplice_id new s _ h
  | false =>
    rcases rewire_cons new b.jts s [] with ⟨_, e⟩ | ⟨l, r, hjt, e⟩
    · exact (congrArg _ e).trans (map_unsplice_id new s _ h)
    · -- the tuple splits at `s`, which becomes `new`; un-splicing puts `s` back
      refine (congrArg _ (e.trans (if_neg h))).trans ?_
      rw [hjt, List.mem_append, List.mem_cons, not_or, not_or] at h
      rw [hjt, List.map_append, List.map_cons, map_unsplice_id new s l h.1, map_unsplice_id new s r h.2.2,
        unsplice_self]

theorem tbl_fresh (new s : Name) (t : List (Int × Name)) (h : ∀ p ∈ t, p.2 ≠ new) (x : Int) :
    (t.find? (fun p => p.1 == x)).map (·.2) =
    ((t.find? (fun p => p.1 == x)).map (·.2)).map (unsplice new s) := by
  cases hf : t.find? (fun p => p.1 == x) with
  | none => rfl
  | some p =>
    simp only [Option.map_some]
    rw [unsplice_of_ne (h p (List.mem_of_find?_eq_some hf))]

open Scfg.Model in
/-- **`insert_block` with one successor splices.** -/
theorem insertBlock_spliced (H H' : Hier) (c : Name) (kind : BKind) (new s : Name) (preds : List Name)
    (hu : H.names.Nodup) (hu' : H'.names.Nodup) (hnew : new ∉ H.names) (hs : s ≠ new)
    (hk1 : kind.isRegion = false) (hk2 : kind.isOrig = false) (hk3 : kind.isBranching = false)
    (hk4 : kind ≠ .synthAssign) (hnd : preds.Nodup)
    (hplain : ∀ p ∈ preds, ∃ b, H.getIn? c p = some b ∧ b.isRegion = false ∧ b.kind.isBranching = false)
    (hhdr : ∀ b ∈ H, b.header ≠ new) (hjt : ∀ b ∈ H, new ∉ b.jts) (htb : ∀ b ∈ H, ∀ p ∈ b.tbl, p.2 ≠ new)
    (h : insertBlock H c kind new preds [s] = .ok H') : Spliced H H' new s := by
  have hnp : new ∉ preds := fun hp => by
    obtain ⟨b, hb, _⟩ := hplain new hp
    exact hnew (List.mem_map.mpr ⟨b, (getIn?_mem hb).1, (getIn?_mem hb).2.2⟩)
  have look := insertBlock_plain_lookup hnd hnp hplain h
  refine ⟨hs, ?_, ?_, ?_⟩
  · refine ⟨{ cont := c, name := new, kind := kind, jts := [s] }, ?_, ?_, ?_, hk3, hk4, rfl⟩
    · refine getIn?_eq_get? (c := c) hu' ?_
      rw [look, if_pos ⟨rfl, rfl⟩]
    · simpa [Blk.isRegion] using hk1
    · simpa [Blk.isOrig] using hk2
  · intro n hn
    cases hg : H.get? n with
    | none =>
      left
      refine ⟨rfl, ?_⟩
      cases hg' : H'.get? n with
      | none => rfl
      | some x =>
        -- an entry of `H'` under another name than `new` comes from an entry of `H`
        obtain ⟨hxm, hxn⟩ := get?_mem hg'
        have hx := getIn?_self hu' hxm
        rw [hxn, look, if_neg fun hh => hn hh.2] at hx
        have hgi : H.getIn? x.cont n = none := by
          cases hgi : H.getIn? x.cont n with
          | none => rfl
          | some y => rw [getIn?_eq_get? hu hgi] at hg; cases hg
        rw [hgi] at hx
        split at hx <;> cases hx
    | some b =>
      right
      obtain ⟨hbm, hbn⟩ := get?_mem hg
      have hbi : H.getIn? b.cont n = some b := hbn ▸ getIn?_self hu hbm
      have hl := look b.cont n
      rw [if_neg fun hh => hn hh.2, hbi] at hl
      by_cases hp : b.cont = c ∧ n ∈ preds
      · rw [if_pos hp] at hl
        refine ⟨b, _, rfl, getIn?_eq_get? hu' hl, ⟨rfl, newTargets_one new s b (hjt b hbm),
          tbl_fresh new s b.tbl (htb b hbm), fun hbr => ?_⟩⟩
        obtain ⟨b0, hb0, h1, h2⟩ := hplain n hp.2
        rw [← hp.1, hbi] at hb0
        cases hb0
        rw [h2] at hbr
        cases hbr
      · rw [if_neg hp] at hl
        refine ⟨b, b, rfl, getIn?_eq_get? hu' hl, ⟨rfl, map_unsplice_id new s _ (hjt b hbm), tbl_fresh new s b.tbl (htb b hbm),
          fun _ x hx y hy hxy => ?_⟩⟩
        have hx' : x ≠ new := fun e => hjt b hbm (e ▸ hx)
        have hy' : y ≠ new := fun e => hjt b hbm (e ▸ hy)
        rwa [unsplice_of_ne hx', unsplice_of_ne hy'] at hxy
  · intro n b hg
    exact hhdr b (get?_mem hg).1

open Scfg.Model in
/-- **`insert_block` with one successor and plain predecessors leaves every path unchanged** (model;
    every hierarchy, every fuel, every decision sequence). -/
theorem insertBlock_preserves_paths (H H' : Hier) (c : Name) (kind : BKind) (new s : Name)
    (preds : List Name) (hu : H.names.Nodup) (hu' : H'.names.Nodup) (hnew : new ∉ H.names) (hs : s ≠ new)
    (hk1 : kind.isRegion = false) (hk2 : kind.isOrig = false) (hk3 : kind.isBranching = false)
    (hk4 : kind ≠ .synthAssign) (hnd : preds.Nodup)
    (hplain : ∀ p ∈ preds, ∃ b, H.getIn? c p = some b ∧ b.isRegion = false ∧ b.kind.isBranching = false)
    (hhdr : ∀ b ∈ H, b.header ≠ new) (hjt : ∀ b ∈ H, new ∉ b.jts) (htb : ∀ b ∈ H, ∀ p ∈ b.tbl, p.2 ≠ new)
    (h : insertBlock H c kind new preds [s] = .ok H') (consume : Bool) (R F : Nat) :
    ∀ (ds : List Nat) (st : WState), NotNew new st → CleanRun (sysF H' consume R F) st →
      run (sysF H consume R F) st ds = run (sysF H' consume R F) st ds :=
  spliced_paths H H' new s
    (insertBlock_spliced H H' c kind new s preds hu hu' hnew hs hk1 hk2 hk3 hk4 hnd hplain hhdr hjt htb h)
    consume R F

/-! ## The decidable relation the harness evaluates on real `insert_block` steps -/

open Scfg.Spec in
theorem sameUpToB_sound {new s : Name} {b b' : Blk} (h : sameUpToB new s b b' = true) : SameUpTo new s b b' := by
  simp only [sameUpToB, Bool.and_eq_true, beq_iff_eq, Bool.or_eq_true, Bool.not_eq_true'] at h
  obtain ⟨⟨⟨h1, h2⟩, h3⟩, h4⟩ := h
  exact ⟨h1, h2, tblRelB_sound _ _ _ h3, fun hbr => injOn_sound (h4.resolve_left (by simp [hbr]))⟩

open Scfg.Spec in
theorem splicedB_sound (H H' : Hier) (new s : Name) (h : splicedB H H' new s = true) : Spliced H H' new s := by
  simp only [splicedB, Bool.and_eq_true, bne_iff_ne, ne_eq] at h
  obtain ⟨⟨⟨h1, h2⟩, h3⟩, h4⟩ := h
  refine ⟨h1, ?_, fun n hn => ?_, fun n b hg => ?_⟩
  · cases hg : H'.get? new with
    | none => simp [hg] at h2
    | some nb =>
      simp only [hg, Bool.and_eq_true, Bool.not_eq_true', bne_iff_ne, ne_eq, beq_iff_eq] at h2
      obtain ⟨⟨⟨⟨a1, a2⟩, a3⟩, a4⟩, a5⟩ := h2
      exact ⟨nb, rfl, a1, a2, a3, a4, a5⟩
  · exact (rel_of_names_all h3 n hn).imp_right
      fun ⟨b, b', h1, h2, e⟩ => ⟨b, b', h1, h2, sameUpToB_sound e⟩
  · simpa using List.all_eq_true.mp h4 b (get?_mem hg).1

end Scfg.C14
