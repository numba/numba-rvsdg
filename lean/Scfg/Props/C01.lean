import Scfg.WF
/-!
# C01 — restructuring preserves every execution path

`PathEquiv*` is the property for one (input graph, hierarchy) pair: equal traces of original
blocks under **every** decision sequence, of any length. The theorems say that one `true`
answer of the decider the harness runs on the implementation's real output establishes it —
for the walk by name and for the walk region by region, separately.
-/
namespace Scfg.C01

/-- Walk by name: same blocks, in the same order, offering the same number of decisions, and
    stopping at the same place, under every decision sequence. -/
def PathEquivName (G H : Hier) (gtop htop : Name) : Prop :=
  ∀ ds : List Nat,
    run (sysOrig G) (initOrig G gtop) ds = run (sysName H false) (initName H htop false) ds

/-- The same for the walk region by region (declared header / exiting / outgoing targets). -/
def PathEquivRegion (G H : Hier) (gtop htop : Name) : Prop :=
  ∀ ds : List Nat,
    run (sysOrig G) (initOrig G gtop) ds = run (sysRegion H false) (initRegion H htop false) ds

theorem name_walk_sound (G H : Hier) (gtop htop : Name)
    (h : simNameOK G H gtop htop false = true) : PathEquivName G H gtop htop :=
  simOKc_sound _ _ _ _ _ h

theorem region_walk_sound (G H : Hier) (gtop htop : Name)
    (h : simRegionOK G H gtop htop false = true) : PathEquivRegion G H gtop htop :=
  simOKc_sound _ _ _ _ _ h

theorem walks_agree (G H : Hier) (gtop htop : Name)
    (h1 : simNameOK G H gtop htop false = true) (h2 : simRegionOK G H gtop htop false = true) :
    ∀ ds, run (sysName H false) (initName H htop false) ds
        = run (sysRegion H false) (initRegion H htop false) ds := by
  intro ds
  rw [← name_walk_sound G H gtop htop h1 ds, ← region_walk_sound G H gtop htop h2 ds]

theorem orig_obs (G : Hier) (n : Name) (b : Blk) (h : G.get? n = some b) :
    (sysOrig G).obs (some n) = .blk n b.jts.length := by
  simp [sysOrig, h]

theorem orig_step (G : Hier) (n : Name) (b : Blk) (i : Nat) (h : G.get? n = some b) :
    (sysOrig G).step (some n) i = b.jts[i]? := by
  simp [sysOrig, h]

theorem run_cons {σ : Type} (S : Sys σ) (s : σ) (d : Nat) (ds : List Nat) :
    run S s (d :: ds) =
      S.obs s :: (if d < (S.obs s).arity then run S (S.step s d) ds else []) := rfl

/-! Non-vacuity: a concrete input (a loop with two exits, `0→1, 1→(2,1)…`) and the hierarchy the
pinned implementation produces for it satisfy the hypotheses (kernel evaluation). -/

def exG : Hier := [
  { cont := "m", name := "0", jts := ["1"] },
  { cont := "m", name := "1", jts := ["1", "2"] },
  { cont := "m", name := "2" }]

def exH : Hier := [
  { cont := "m", name := "0", jts := ["loop_region_0"] },
  { cont := "m", name := "2" },
  { cont := "m", name := "loop_region_0", kind := .region, jts := ["2"], rkind := "loop",
    header := "1", exiting := "1", parent := "m" },
  { cont := "loop_region_0", name := "1", jts := ["1", "2"], bes := ["1"] }]

/-- The list-based checker (`simOK`, kernel-reducible) accepts the pair; the compiled driver uses
    the certificate-based `simOKc` — both are sound (`simOK_sound`, `simOKc_sound`). -/
example : simOK (sysOrig exG) (sysName exH false) (initOrig exG "m") (initName exH "m" false) 64 = true := by
  decide +kernel
example : simOK (sysOrig exG) (sysRegion exH false) (initOrig exG "m") (initRegion exH "m" false) 64 = true := by
  decide +kernel
/-- …and the check is not trivially true: swapping the loop block's successors is rejected. -/
example : simOK (sysOrig exG)
    (sysName (exH.map fun b => if b.name == "1" then { b with jts := ["2", "1"] } else b) false)
    (initOrig exG "m")
    (initName (exH.map fun b => if b.name == "1" then { b with jts := ["2", "1"] } else b) "m" false) 64
    = false := by decide +kernel

end Scfg.C01
