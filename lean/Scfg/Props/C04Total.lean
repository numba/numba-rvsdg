import Scfg.Props.C04Walks
/-!
# C04 — the converse: an error-free walk by name makes the region-by-region walk succeed

`walks_coincide` (C04Walks.lean) shows: region walk error-free ⇒ the walk by name is identical.
This file proves the other direction for every self-consistent hierarchy: if `WF H`, back edges
belong to loop latches (`s2`), every container named by an entry is a region (`Conts`), and the walk
by name meets no error, then every region-level continuation succeeds — going up through exiting
blocks finds the target in an enclosing level (W3, W4, W5), going down through declared headers ends
at the block the name resolved to (W2) — so the region-by-region walk is the same walk
(`walks_coincide_conv`). Together: the two walks agree as soon as either of them is error-free.
-/
namespace Scfg.C04

/-- every container an entry names is a region (or names no entry: the top level) -/
def Conts (H : Hier) : Prop := ∀ b ∈ H, ∀ r, H.get? b.cont = some r → r.isRegion = true

theorem contsOK_sound (H : Hier) (h : contsOK H = true) : Conts H := by
  intro b hb r hr
  have := List.all_eq_true.mp h b hb
  simpa [hr] using this

/-- **Resolving a name = entering by declared headers**, from the name side. -/
theorem resolve_enter (H : Hier) (hwf : WF H) : ∀ f c n x b,
    H.getIn? c n = some x → resolve H f n = some b → enter H f c n = .ok b := by
  intro f
  induction f with
  | zero => intro c n x b _ h; cases h
  | succ f ih =>
    intro c n x b hx h
    have hg := getIn?_eq_get? hwf.unique hx
    rw [enter]
    simp only [hx]
    cases hr : x.isRegion with
    | true =>
      rw [resolve_region hg hr] at h
      obtain ⟨⟨hh, hhh⟩, _⟩ := hwf.inside x (getIn?_mem hx).1 hr
      exact ih _ _ hh b hhh h
    | false =>
      rw [resolve_block hg hr] at h
      rw [if_neg Bool.false_ne_true, Option.some.inj h]

/-- **Leaving along a forward target succeeds** when the target is in scope and resolves by name. One level up
    costs one unit of `ancestors`' fuel and one of `leave`'s; at `f = H.length` the scope hypothesis is W4. -/
theorem leave_fwd_total (H : Hier) (hwf : WF H) (hco : Conts H) : ∀ f cur t b', cur ∈ H →
    t ∈ cur.jt → (ancestors H f cur.cont).any (fun a => (H.getIn? a t).isSome) = true →
    resolve H (H.length + 1) t = some b' → leave H (f + 1) cur t false = .ok b' := by
  intro f
  induction f with
  | zero =>
    intro cur t b' _ _ hanc hres
    simp only [ancestors, List.any_cons, List.any_nil, Bool.or_false] at hanc
    obtain ⟨x, hx⟩ := Option.isSome_iff_exists.mp hanc
    rw [leave, if_pos (by simpa using hanc)]
    exact resolve_enter H hwf _ _ _ x b' hx hres
  | succ f ih =>
    intro cur t b' hcur ht hanc hres
    rw [leave]
    by_cases hin : (H.getIn? cur.cont t).isSome = true
    · obtain ⟨x, hx⟩ := Option.isSome_iff_exists.mp hin
      rw [if_pos (by simpa using hin)]
      exact resolve_enter H hwf _ _ _ x b' hx hres
    · rw [if_neg (by simpa using hin)]
      rw [ancestors] at hanc
      cases hR : H.get? cur.cont with
      | none => simp [hR, hin] at hanc
      | some R =>
        simp only [hR, List.any_cons, hin, Bool.false_or] at hanc
        have hreg := hco cur hcur R hR
        -- only the exiting block names anything outside its level (W3)
        have hex : R.exiting = cur.name := by
          refine Decidable.by_contra fun hex => ?_
          obtain ⟨x, hx⟩ := hwf.leaves cur hcur R hR hex t
            (List.mem_append_left _ (mem_jt.mp ht).1)
          simp [hx] at hin
        have hjt := region_targets H hwf cur R hcur hR hreg hex
        obtain ⟨pos, hpos⟩ := idxOf_of_mem ht
        simp only [hreg, Bool.not_true, Bool.false_eq_true, if_false, hex, bne_self_eq_false, hpos, hjt,
          idxOf_get hpos]
        exact ih R t b' (get?_mem hR).1 (hjt ▸ ht) hanc hres

/-- the chain of exiting blocks below a region -/
inductive ExitChain (H : Hier) : Blk → Blk → Prop
  | refl {r} : ExitChain H r r
  | step {r e1 e} : r.isRegion = true → H.getIn? r.name r.exiting = some e1 → ExitChain H e1 e →
      ExitChain H r e

theorem innermostExiting_chain {H : Hier} : ∀ {f r e}, innermostExiting H f r = some e → ExitChain H r e := by
  intro f r
  fun_induction innermostExiting H f r with
  | case1 | case3 => intro e h; cases h
  | case2 => intro e h; cases h; exact .refl
  | case4 f r hr e1 he1 ih => intro e h; exact .step (by simpa using hr) he1 (ih h)

theorem ExitChain.mem {H : Hier} {L e : Blk} (h : ExitChain H L e) (hL : L ∈ H) : e ∈ H := by
  induction h with
  | refl => exact hL
  | step _ he1 _ ih => exact ih (getIn?_mem he1).1

/-- a chain that is not trivial ends with a last link -/
theorem exitChain_last (H : Hier) (r e : Blk) (h : ExitChain H r e) :
    r = e ∨ ∃ r', ExitChain H r r' ∧ r'.isRegion = true ∧ H.getIn? r'.name r'.exiting = some e := by
  induction h with
  | refl => exact Or.inl rfl
  | @step r e1 e hr he1 _ ih =>
    right
    rcases ih with h0 | ⟨r', hc, hr', he'⟩
    · subst h0; exact ⟨r, ExitChain.refl, hr, he1⟩
    · exact ⟨r', ExitChain.step hr he1 hc, hr', he'⟩

/-- The third part carries its hypotheses inside: `Conts` speaks only of containers of members, and the induction
    moves from a container to the one around it. -/
theorem enclosingLoop_spec {H : Hier} : ∀ {f c L}, enclosingLoop H f c = some L →
    L ∈ H ∧ (L.rkind == "loop") = true ∧ (Conts H → (∃ m ∈ H, m.cont = c) → L.isRegion = true) := by
  intro f c
  fun_induction enclosingLoop H f c with
  | case1 | case2 => intro L h; cases h
  | case3 f c R hR hk =>
    intro L h
    cases h
    exact ⟨(get?_mem hR).1, hk, fun hco ⟨m, hm, hmc⟩ => hco m hm _ (hmc ▸ hR)⟩
  | case4 f c R hR _ ih =>
    intro L h
    obtain ⟨h1, h2, h3⟩ := ih h
    exact ⟨h1, h2, fun hco _ => h3 hco ⟨R, (get?_mem hR).1, rfl⟩⟩

/-- **Leaving along a back edge succeeds**: going up through the exiting blocks reaches the nearest
    enclosing loop region, which is re-entered at its declared header. -/
theorem leave_back_total (H : Hier) (hwf : WF H) (hco : Conts H) (L : Blk) (t : Name) :
    ∀ f cur, cur ∈ H → ExitChain H L cur → cur ≠ L → enclosingLoop H f cur.cont = some L →
      leave H (f + 1) cur t true = enter H (H.length + 1) L.name L.header := by
  intro f
  induction f with
  | zero => intro cur _ _ _ h; simp [enclosingLoop] at h
  | succ f ih =>
    intro cur hcur hchain hne hL
    rcases exitChain_last H L cur hchain with h0 | ⟨r', hc, hr', he'⟩
    · exact absurd h0.symm hne
    · obtain ⟨hcm, hcc, hcn⟩ := getIn?_mem he'
      -- the region directly around `cur` is `r'`
      have hr'm : r' ∈ H := hc.mem (enclosingLoop_spec hL).1
      have hR : H.get? cur.cont = some r' := hcc ▸ get?_of_mem hwf.unique hr'm
      rw [leave]
      simp only [Bool.not_true, Bool.false_and, Bool.false_eq_true, if_false, hR, hr', hcn,
        bne_self_eq_false, if_true]
      by_cases hk : (r'.rkind == "loop") = true
      · rw [enclosingLoop_loop hR hk] at hL
        rw [if_pos hk, Option.some.inj hL]
      · rw [enclosingLoop_up hR hk] at hL
        rw [if_neg hk]
        exact ih r' hr'm hc (fun e => hk (e ▸ (enclosingLoop_spec hL).2.1)) hL

theorem regionStep_total (H : Hier) (hwf : WF H) (hs2 : s2 H = true) (hco : Conts H) (b : Blk)
    (hb : b ∈ H) (i : Nat) (t : Name) (b' : Blk) (ht : b.jts[i]? = some t)
    (hres : resolve H (H.length + 1) t = some b') : regionStep H b i = .ok b' := by
  simp only [regionStep, ht]
  have htm : t ∈ b.jts := List.mem_of_getElem? ht
  cases hbe : b.bes.contains t with
  | false =>
    have htj : t ∈ b.jt := mem_jt.mpr ⟨htm, mt List.contains_iff_mem.mpr (Bool.eq_false_iff.mp hbe)⟩
    have hsc := hwf.scope b hb t (List.mem_append.mpr (Or.inl htm))
    exact leave_fwd_total H hwf hco H.length b t b' hb htj hsc hres
  | true =>
    obtain ⟨hleaf, L, hL, ⟨e, he, hen⟩, x, y, hx, hy, hxy⟩ := backedge_spec hs2 hb hbe
    have hchain := innermostExiting_chain he
    obtain ⟨hLm, _, hLr'⟩ := enclosingLoop_spec hL
    have hLr := hLr' hco ⟨b, hb, rfl⟩
    -- the innermost exiting block is `b` itself
    obtain rfl : e = b := eq_of_name hwf.unique (hchain.mem hLm) hb hen
    -- a leaf is not a loop region
    have hneL : e ≠ L := fun e0 => by rw [← e0, hleaf] at hLr; cases hLr
    rw [leave_back_total H hwf hco L t H.length e hb hchain hneL hL]
    -- entering the loop's header ends where its name resolves to, which is where `t` resolves to
    obtain ⟨⟨hh, hhh⟩, _⟩ := hwf.inside L hLm hLr
    rw [resolve_enter H hwf _ _ _ hh y hhh hy, ← resolve_eq_of_name hx hy hxy]
    exact congrArg _ (Option.some.inj (hx.symm.trans hres))

theorem advanceName_resolved (H : Hier) (consume : Bool) (f : Nat) (n : Name) (val : Val)
    (h : (advanceName H consume f n val).isErr = false) : ∃ b, resolve H (H.length + 1) n = some b := by
  cases f with
  | zero => simp [advanceName, WState.isErr] at h
  | succ f =>
    simp only [advanceName] at h
    cases hr : resolve H (H.length + 1) n with
    | none => simp [hr, WState.isErr] at h
    | some b => exact ⟨b, rfl⟩

theorem advance_eq_conv (H : Hier) (hwf : WF H) (hs2 : s2 H = true) (hco : Conts H) (consume : Bool) :
    ∀ f n b val, resolve H (H.length + 1) n = some b →
      (advanceName H consume f n val).isErr = false →
      advanceRegion H consume f b val = advanceName H consume f n val := by
  intro f
  induction f with
  | zero => intro n b val _ h; cases h
  | succ f ih =>
    intro n b val hres h
    rcases advance_succ hres f val with e | ⟨val', i, e1, e2⟩
    · exact e.symm
    · rw [e1] at h
      rw [e1, e2]
      cases ht : b.jts[i]? with
      | none => rw [ht] at h; cases h
      | some t =>
        simp only [ht] at h ⊢
        obtain ⟨b', hb'⟩ := advanceName_resolved H consume f t val' h
        rw [regionStep_total H hwf hs2 hco b (resolve_mem H _ _ _ hres) i t b' ht hb']
        exact ih t b' val' hb' h

theorem step_eq_conv (H : Hier) (hwf : WF H) (hs2 : s2 H = true) (hco : Conts H) (consume : Bool)
    (b : Blk) (hb : b ∈ H) (val : Val) (i : Nat) (h : (stepName H consume b val i).isErr = false) :
    stepRegion H consume b val i = stepName H consume b val i := by
  simp only [stepName] at h ⊢
  cases ht : b.jts[i]? with
  | none => simp [ht, WState.isErr] at h
  | some t =>
    simp only [ht] at h ⊢
    obtain ⟨b', hb'⟩ := advanceName_resolved H consume _ t val h
    simp only [stepRegion, regionStep_total H hwf hs2 hco b hb i t b' ht hb']
    exact advance_eq_conv H hwf hs2 hco consume _ t b' val hb' h

theorem runs_coincide_conv (H : Hier) (hwf : WF H) (hs2 : s2 H = true) (hco : Conts H) (consume : Bool) :
    ∀ (ds : List Nat) (s : WState), CleanRun (sysName H consume) s →
      run (sysRegion H consume) s ds = run (sysName H consume) s ds :=
  walk_eq_of_next fun b hb val d => step_eq_conv H hwf hs2 hco consume b hb val d

/-- **The converse**; it needs `Conts` in addition. -/
theorem walks_coincide_conv (H : Hier) (top : Name) (consume : Bool) (hwf : WF H) (hs2 : s2 H = true)
    (hco : Conts H) (hclean : CleanRun (sysName H consume) (initName H top consume)) :
    ∀ ds, run (sysRegion H consume) (initRegion H top consume) ds
        = run (sysName H consume) (initName H top consume) ds := by
  intro ds
  have hinit : initRegion H top consume = initName H top consume := by
    have hne : (initName H top consume).isErr = false := clean_state hclean
    simp only [initName] at hne ⊢
    simp only [initRegion]
    cases hh : findHeadOf (H.level top) with
    | none => rfl
    | some h =>
      simp only [hh] at hne ⊢
      obtain ⟨b, hb'⟩ := advanceName_resolved H consume _ h [] hne
      obtain ⟨x, hxm, hxn, -⟩ := findHeadOf_spec hh
      obtain ⟨hx, hxc⟩ := mem_level.mp hxm
      have hgx : H.getIn? top h = some x := hxc ▸ hxn ▸ getIn?_self hwf.unique hx
      rw [resolve_enter H hwf _ _ _ x b hgx hb']
      exact advance_eq_conv H hwf hs2 hco consume _ h b [] hb' hne
  rw [hinit]
  exact runs_coincide_conv H hwf hs2 hco consume ds _ hclean

/-- **Both directions together**: as soon as one of the two walks is error-free, both show the
    same trace under every decision sequence. -/
theorem walks_agree_iff (H : Hier) (top : Name) (consume : Bool) (hwf : WF H) (hs2 : s2 H = true)
    (hco : Conts H)
    (h : CleanRun (sysName H consume) (initName H top consume) ∨
         CleanRun (sysRegion H consume) (initRegion H top consume)) :
    ∀ ds, run (sysName H consume) (initName H top consume) ds
        = run (sysRegion H consume) (initRegion H top consume) ds := by
  intro ds
  rcases h with h | h
  · exact (walks_coincide_conv H top consume hwf hs2 hco h ds).symm
  · exact walks_coincide H top consume hwf hs2 h ds

end Scfg.C04
