import Scfg.Lemmas.List
/-!
# C02 — restructuring accepts every closed CFG: a-priori facts about the model's abort sites

The full statement (the model never aborts on a closed CFG) is decided by enumeration plus the
exact correspondence of `Scfg/Model/Pipeline.lean` with the code. For one of the abort sites a
theorem holds for **all** inputs:

* `doms_assert_never_fires` — the monotonicity assertion of `_find_dominators_internal`
  (`assert len(new_doms) < len(doms[n])`) can never fail, for any entries, node list,
  predecessor and successor tables (only: predecessors and successors are nodes).
  Invariant (`Inv.shrink`): every set only ever shrinks, because each update is contained in the old
  value. `Inv.self` is carried along and used by nothing.

The file also holds what every proof about the dominator loop rests on (C13Doms continues from
here): the lemmas of `SetMap`, `newDomsOf`, `sameSetL`.
-/
namespace Scfg.C02
open Scfg.Model

variable {E N : List Name} {P S : Name → List Name} {d : SetMap} {n : Name}

theorem mem_inter {a b : List Name} {x : Name} : x ∈ inter a b ↔ x ∈ a ∧ x ∈ b := by
  simp [inter, mem_iff]

theorem mem_fold_inter (d : SetMap) (rest : List Name) (init : List Name) (x : Name) :
    x ∈ rest.foldl (fun acc q => inter acc (d.get q)) init ↔ x ∈ init ∧ ∀ q ∈ rest, x ∈ d.get q := by
  induction rest generalizing init with
  | nil => simp
  | cons q qs ih => simp only [List.foldl_cons, ih, mem_inter, List.mem_cons, forall_eq_or_imp, and_assoc]

/-- membership in `{n} | ⋂ doms[p]` -/
theorem mem_newDomsOf {x : Name} :
    x ∈ newDomsOf d P n ↔ x = n ∨ (P n ≠ [] ∧ ∀ q ∈ P n, x ∈ d.get q) := by
  unfold newDomsOf
  cases P n with
  | nil => simp
  | cons p rest =>
    simp only [mem_dedup, List.mem_cons, mem_fold_inter, ne_eq, reduceCtorEq, not_false_eq_true,
      forall_eq_or_imp, true_and]

theorem nodup_newDomsOf (d : SetMap) (P : Name → List Name) (n : Name) : (newDomsOf d P n).Nodup := by
  unfold newDomsOf
  split
  · simp
  · exact nodup_dedup _

theorem newDomsOf_mono {d' : SetMap} {x : Name} (h : ∀ q ∈ P n, x ∈ d.get q → x ∈ d'.get q)
    (hx : x ∈ newDomsOf d P n) : x ∈ newDomsOf d' P n :=
  mem_newDomsOf.mpr ((mem_newDomsOf.mp hx).imp_right fun hp =>
    ⟨hp.1, fun q hq => h q hq (hp.2 q hq)⟩)

theorem sameSetL_eq_true {a b : List Name} :
    sameSetL a b = true ↔ a.length = b.length ∧ ∀ x ∈ a, x ∈ b := by
  simp only [sameSetL, Bool.and_eq_true, beq_iff_eq, List.all_eq_true, mem_iff]

theorem mem_iff_of_sameSetL {a b : List Name} (ha : a.Nodup) (h : sameSetL a b = true) (x : Name) :
    x ∈ a ↔ x ∈ b :=
  have ⟨hl, hsub⟩ := sameSetL_eq_true.mp h
  ⟨hsub x, fun hx => subset_of_nodup_of_length_le ha (fun y => hsub y) (Nat.le_of_eq hl.symm) hx⟩

theorem SetMap.get_map {F : Name → Name × List Name} (hF : ∀ n, (F n).1 = n) {nodes : List Name} {m : Name}
    (hm : m ∈ nodes) : SetMap.get (nodes.map F) m = (F m).2 := by
  -- `F m` is the only pair with key `m`
  have h : (nodes.map F).find? (·.1 == m) = some (F m) :=
    find?_unique (List.mem_map_of_mem hm) (name_beq (hF m)) fun y hy hp => by
      obtain ⟨n, _, rfl⟩ := List.mem_map.mp hy
      exact congrArg F ((hF n).symm.trans (beq_iff_eq.mp hp))
  unfold SetMap.get
  rw [h]
  rfl

theorem SetMap.get_set (d : SetMap) (k k' : Name) (v : List Name) :
    (d.set k v).get k' = if k' = k then v else d.get k' := by
  unfold SetMap.get
  rw [show d.set k v = dictSet (·.1 == k) (k, v) d from rfl, find?_dictSet_key]
  split <;> rfl

/-- the table `domsInternal` starts from -/
abbrev doms0 (E N : List Name) : SetMap := N.map fun n => if mem E n then (n, [n]) else (n, N)

theorem get_doms0 {m : Name} (hm : m ∈ N) : (doms0 E N).get m = if mem E m then [m] else N := by
  rw [SetMap.get_map (fun n => by split <;> rfl) hm]
  split <;> rfl

theorem domsInternal_eq (hE : E ≠ []) :
    domsInternal E N P S = domsGo E P S (N.length * N.length * (N.length + 2) + 16)
      (N.filter fun n => !mem E n) (doms0 E N) := by
  cases E with
  | nil => exact absurd rfl hE
  | cons => rfl

structure Inv (entries nodes : List Name) (preds : Name → List Name) (d : SetMap) : Prop where
  self : ∀ n ∈ nodes, n ∈ d.get n
  shrink : ∀ n ∈ nodes, mem entries n = false → ∀ x ∈ newDomsOf d preds n, x ∈ d.get n

theorem Inv.init (hp : ∀ n, ∀ p ∈ P n, p ∈ N) : Inv E N P (doms0 E N) := by
  have hval : ∀ q ∈ N, ∀ x ∈ (doms0 E N).get q, x ∈ N := by
    intro q hq x hx
    rw [get_doms0 hq] at hx
    split at hx
    · exact List.mem_singleton.mp hx ▸ hq
    · exact hx
  constructor
  · intro m hm
    rw [get_doms0 hm]
    split
    · exact List.mem_singleton_self m
    · exact hm
  · intro m hm hme x hx
    rw [get_doms0 hm, hme]
    rcases mem_newDomsOf.mp hx with e | ⟨hne, hall⟩
    · exact e ▸ hm
    · obtain ⟨p, hpm⟩ := List.exists_mem_of_ne_nil _ hne
      exact hval p (hp m p hpm) x (hall p hpm)

/-- Under the invariant a set that changes gets strictly smaller: what the assertion checks.
    (`hE`, `hs` as the loop tests them.) -/
theorem Inv.lt (hinv : Inv E N P d) (hn : n ∈ N) (hE : ¬mem E n = true)
    (hs : ¬sameSetL (newDomsOf d P n) (d.get n) = true) :
    (newDomsOf d P n).length < (d.get n).length := by
  have hsub := hinv.shrink n hn (Bool.eq_false_iff.mpr hE)
  have hle := (nodup_newDomsOf d P n).length_le_of_subset fun x hx => hsub x hx
  have hne : (newDomsOf d P n).length ≠ (d.get n).length := fun heq =>
    hs (sameSetL_eq_true.mpr ⟨heq, hsub⟩)
  omega

theorem Inv.set (hinv : Inv E N P d) (hn : n ∈ N) (hE : ¬mem E n = true) :
    Inv E N P (d.set n (newDomsOf d P n)) := by
  have hsub := hinv.shrink n hn (Bool.eq_false_iff.mpr hE)
  -- the new table is contained in the old one, entry by entry
  have hget : ∀ q x, x ∈ (d.set n (newDomsOf d P n)).get q → x ∈ d.get q := by
    intro q x hx
    rw [SetMap.get_set] at hx
    split at hx
    · next e => exact e ▸ hsub x hx
    · exact hx
  constructor
  · intro m hm
    rw [SetMap.get_set]
    split
    · next e => exact e ▸ mem_newDomsOf.mpr (Or.inl rfl)
    · exact hinv.self m hm
  · intro m hm hme x hx
    have hxd : x ∈ newDomsOf d P m := newDomsOf_mono (fun q _ => hget q x) hx
    rw [SetMap.get_set]
    split
    · next e => exact e ▸ hxd
    · exact hinv.shrink m hm hme x hxd

/-- Under the invariant the loop can only fail for want of fuel. -/
theorem domsGo_error (hs : ∀ n, ∀ s ∈ S n, s ∈ N) {f : Nat} {todo : List Name} {d : SetMap}
    (hinv : Inv E N P d) (htodo : ∀ t ∈ todo, t ∈ N) :
    ∀ e, domsGo E P S f todo d = .error e → e = ⟨"OutOfFuel", "_find_dominators_internal"⟩ := by
  fun_induction domsGo E P S f todo d with
  | case1 => exact fun e h => (Except.error.inj h).symm -- out of fuel
  | case2 => exact fun e h => nomatch h -- the list is empty
  | case3 _ todo _ _ _ _ _ ih | case4 _ todo _ _ _ _ _ _ _ _ ih =>
    -- the last name is skipped: an entry, or its set is unchanged
    exact ih hinv fun x hx => htodo x (List.dropLast_subset todo hx)
  | case5 _ _ _ n hl hE _ _ hsame hlen => -- the assertion fails
    exact absurd (hinv.lt (htodo n (List.mem_of_getLast? hl)) hE hsame) (by simpa using hlen)
  | case6 _ todo _ n hl _ hE _ _ _ _ ih => -- the table is updated at `n`, its successors are pushed
    exact ih (hinv.set (htodo n (List.mem_of_getLast? hl)) hE)
      (List.forall_mem_append.mpr ⟨fun x hx => htodo x (List.dropLast_subset todo hx), hs n⟩)

/-- **The monotonicity assertion of the dominator fix-point never fires** — for every choice of
    entries, nodes and predecessor / successor tables over those nodes. -/
theorem doms_assert_never_fires (entries nodes : List Name) (preds succs : Name → List Name)
    (hp : ∀ n, ∀ p ∈ preds n, p ∈ nodes) (hs : ∀ n, ∀ s ∈ succs n, s ∈ nodes) :
    domsInternal entries nodes preds succs ≠ .error (assertionAt "_find_dominators_internal") := by
  by_cases hE : entries = []
  · subst hE
    simp [domsInternal, assertionAt]
  · rw [domsInternal_eq hE]
    intro h
    exact absurd (domsGo_error hs (Inv.init hp) (fun t ht => (List.mem_filter.mp ht).1) _ h)
      (by simp [assertionAt])

/-! ### The two graphs of a level -/

theorem succIn_mem {lvl : List Blk} {m x : Name} (h : x ∈ succIn lvl m) :
    (∃ b ∈ lvl, b.name = m) ∧ x ∈ lvl.map (·.name) := by
  unfold succIn at h
  split at h
  · next b hb =>
    obtain ⟨y, hy, hyx⟩ := List.any_eq_true.mp (List.mem_filter.mp h).2
    exact ⟨⟨b, find?_beq_some hb⟩,
      List.mem_map.mpr ⟨y, hy, by simpa using hyx⟩⟩
  · cases h

theorem mem_inLevelSuccs {lvl : List Blk} {m x : Name} :
    x ∈ inLevelSuccs lvl m ↔ x ∈ succIn lvl m := mem_dedup

theorem mem_inLevelPreds {lvl : List Blk} {m x : Name} :
    m ∈ inLevelPreds lvl x ↔ ∃ b ∈ lvl, b.name = m ∧ x ∈ succIn lvl b.name := by
  simp only [inLevelPreds, List.mem_map, List.mem_filter, List.contains_iff_mem]
  constructor
  · rintro ⟨b, ⟨hb, hx⟩, e⟩
    exact ⟨b, hb, e, hx⟩
  · rintro ⟨b, hb, e, hx⟩
    exact ⟨b, ⟨hb, hx⟩, e⟩

theorem inLevelSuccs_node (lvl : List Blk) (n s : Name) (h : s ∈ inLevelSuccs lvl n) :
    s ∈ lvl.map (·.name) :=
  (succIn_mem (mem_inLevelSuccs.mp h)).2

theorem inLevelPreds_node (lvl : List Blk) (n p : Name) (h : p ∈ inLevelPreds lvl n) :
    p ∈ lvl.map (·.name) :=
  have ⟨b, hb, e, _⟩ := mem_inLevelPreds.mp h
  List.mem_map.mpr ⟨b, hb, e⟩

/-- The assertion never fires in `_doms` / `_post_doms`, on any level of any hierarchy. -/
theorem doms_never_asserts (H : Hier) (c : Name) :
    doms H c ≠ .error (assertionAt "_find_dominators_internal") :=
  doms_assert_never_fires _ _ _ _ (inLevelPreds_node _) (inLevelSuccs_node _)

theorem postDoms_never_asserts (H : Hier) (c : Name) :
    postDoms H c ≠ .error (assertionAt "_find_dominators_internal") :=
  doms_assert_never_fires _ _ _ _ (inLevelSuccs_node _) (inLevelPreds_node _)

end Scfg.C02
