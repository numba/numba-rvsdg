import Scfg.Lemmas.List
/-!
# C05 — original blocks are conserved

`conserved_sound` unfolds the Boolean `conserved G H` (evaluated on every real output) into
the statement of the property.
-/
namespace Scfg.C05

theorem zipAll_spec {α β : Type} (p : α → β → Bool) :
    ∀ (as : List α) (bs : List β), zipAll p as bs = true →
      as.length = bs.length ∧ ∀ i (h1 : i < as.length) (h2 : i < bs.length), p as[i] bs[i] = true := by
  intro as bs
  fun_induction zipAll p as bs with
  | case1 => exact fun _ => ⟨rfl, fun _ h1 => absurd h1 (Nat.not_lt_zero _)⟩ -- both empty
  | case2 a as b bs ih =>
    intro h
    rw [Bool.and_eq_true] at h
    obtain ⟨ih1, ih2⟩ := ih h.2
    refine ⟨congrArg (· + 1) ih1, fun i h1 h2 => ?_⟩
    cases i with
    | zero => exact h.1
    | succ i => exact ih2 i (Nat.lt_of_succ_lt_succ h1) (Nat.lt_of_succ_lt_succ h2)
  | case3 => exact fun h => absurd h Bool.false_ne_true -- the lengths differ

theorem succOK_sound {H : Hier} {old new : Name} (h : succOK H old new = true) :
    old = new ∨ ∃ y, H.get? new = some y ∧ y.isOrig = false := by
  unfold succOK at h
  rw [Bool.or_eq_true] at h
  rcases h with h | h
  · exact Or.inl (of_decide_eq_true h)
  · cases hy : H.get? new with
    | none => rw [hy] at h; cases h
    | some y =>
      rw [hy] at h
      exact Or.inr ⟨y, rfl, by simpa using h⟩

/-- **C05.** If `conserved G H` then
    * nothing is duplicated: the names of the original-kind entries of `H` are pairwise distinct;
    * nothing is invented: every original-kind entry of `H` is (by name) a block of `G`;
    * nothing is lost or altered: every block `g` of `G` occurs exactly once in `H`, with the same
      kind and payload, and
      - if `g` has successors: the same number, and position by position the successor is
        unchanged or renamed to a synthetic block or a region of `H`;
      - if `g` has none: still none, or the single edge it gained leads (through region headers)
        to a synthetic block. -/
theorem conserved_sound (G H : Hier) (h : conserved G H = true) :
    ((H.filter (·.isOrig)).map (·.name)).Nodup ∧
    (∀ x ∈ H, x.isOrig = true → ∃ g, G.get? x.name = some g) ∧
    ∀ g ∈ G, ∃ x, H.filter (fun y => y.name == g.name) = [x] ∧
      x.kind = g.kind ∧ x.pay = g.pay ∧
      (g.jts ≠ [] →
        g.jts.length = x.jts.length ∧
        ∀ i (h1 : i < g.jts.length) (h2 : i < x.jts.length),
          g.jts[i] = x.jts[i] ∨ ∃ y, H.get? x.jts[i] = some y ∧ y.isOrig = false) ∧
      (g.jts = [] →
        x.jts = [] ∨ ∃ t y, x.jts = [t] ∧ resolve H (H.length + 1) t = some y ∧ y.isOrig = false) := by
  unfold conserved at h
  rw [Bool.and_eq_true, Bool.and_eq_true] at h
  obtain ⟨⟨h1, h2⟩, h3⟩ := h
  refine ⟨(nodupB_iff _).mp h1, fun x hx ho => ?_, fun g hg => ?_⟩
  · exact Option.isSome_iff_exists.mp (List.all_eq_true.mp h2 x (List.mem_filter.mpr ⟨hx, ho⟩))
  · have hg := List.all_eq_true.mp h3 g hg
    split at hg
    · next x hx =>
      rw [Bool.and_eq_true, Bool.and_eq_true, Bool.and_eq_true, Bool.and_eq_true] at hg
      obtain ⟨⟨⟨⟨hk, hp⟩, _⟩, _⟩, hs⟩ := hg
      refine ⟨x, hx, of_decide_eq_true hk, eq_of_beq hp, fun hne => ?_, fun hnil => ?_⟩
      · rw [if_neg (by rwa [List.isEmpty_iff])] at hs
        obtain ⟨hl, hi⟩ := zipAll_spec _ _ _ hs
        exact ⟨hl, fun i i1 i2 => succOK_sound (hi i i1 i2)⟩
      · rw [if_pos (by rw [hnil]; rfl), Bool.or_eq_true] at hs
        rcases hs with h | h
        · exact Or.inl (List.isEmpty_iff.mp h)
        · split at h
          · next t ht =>
            split at h
            · next y hy => exact Or.inr ⟨t, y, ht, hy, by simpa using h⟩
            · cases h
          · cases h
    · cases hg

/-! Non-vacuity, and a rejected alteration (successors of block 1 swapped). -/
def exG : Hier := [
  { cont := "m", name := "0", jts := ["1"] },
  { cont := "m", name := "1", jts := ["1", "2"] },
  { cont := "m", name := "2" }]
def exH : Hier := [
  { cont := "m", name := "0", jts := ["loop_region_0"] },
  { cont := "m", name := "2" },
  { cont := "m", name := "loop_region_0", kind := .region, jts := ["2"], rkind := "loop",
    header := "1", exiting := "1", parent := "m" },
  { cont := "loop_region_0", name := "1", jts := ["1", "2"], bes := ["1"] }]
example : conserved exG exH = true := by decide +kernel
example : conserved exG (exH.map fun b => if b.name == "1" then { b with jts := ["2", "1"] } else b)
    = false := by decide +kernel
example : conserved exG (exH.filter fun b => b.name != "2") = false := by decide +kernel

end Scfg.C05
