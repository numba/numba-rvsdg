import Scfg.Props.C01Conv
import Scfg.Props.C04Total
/-!
# C01 — the certified run at the specification's own fuel

`certified_run_total` holds "at every fuel ≥ chainFuel". The specification-level walk `sysName H` has its
own bounds (`H.length + 1` headers per name, `walkFuel H` synthetic blocks per step). They suffice as soon
as two decidable facts hold of the final hierarchy (`fuelOK`): every region's header chain ends within
`H.length + 1` steps, and the synthetic blocks carry ranks that strictly increase along every arc between
two of them (so no walk passes more than `H.length` synthetic blocks between two original ones).
`certified_run_sysName`: then `sysName` itself shows exactly the input graph's trace; `certified_run_region`:
and so does the walk region by region, if the final hierarchy also passes `wf`, `s2` and `contsOK` (C04).
-/
namespace Scfg.C01
open Scfg.Spec Scfg.C04

theorem resolve_det (H : Hier) (n : Name) (b b' : Blk) (R R' : Nat)
    (h : resolve H R n = some b) (h' : resolve H R' n = some b') : b = b' := by
  have h1 := resolve_mono_le H n b R (max R R') (Nat.le_max_left _ _) h
  have h2 := resolve_mono_le H n b' R' (max R R') (Nat.le_max_right _ _) h'
  rw [h1] at h2
  exact Option.some.inj h2

/-- header chains are short: what resolves at all resolves within the specification's bound -/
theorem resolve_short (H : Hier) (hH : hdrOK H = true) (R : Nat) (n : Name) (b : Blk)
    (h : resolve H R n = some b) : resolve H (H.length + 1) n = some b := by
  cases R with
  | zero => cases h
  | succ R =>
    cases hg : H.get? n with
    | none => rw [resolve_none hg] at h; cases h
    | some b0 =>
      cases hr : b0.isRegion with
      | true =>
        -- a region: `hdrOK` says its name resolves within the bound, and resolution is unique
        have hm := get?_mem hg
        have := List.all_eq_true.mp hH b0 hm.1
        rw [hr, hm.2, Bool.not_true, Bool.false_or] at this
        obtain ⟨b', hs⟩ := Option.isSome_iff_exists.mp this
        rw [resolve_det H n b b' _ _ h hs, hs]
      | false => rw [resolve_block hg hr] at h ⊢; exact h

/-- the fuel a walk from a name needs: one step for an original block, and for a synthetic block of rank
    `k` at most the `H.length - k` synthetic blocks that can still follow, plus two (the block itself, and one because
    `advF_of_adv` asks for more fuel than blocks passed) -/
def need (H : Hier) (rk : Ranks) (b : Blk) : Nat :=
  if b.isOrig then 1 else (H.length - (rk.get b.name).getD 0) + 2

theorem need_pos (H : Hier) (rk : Ranks) (b : Blk) : 0 < need H rk b := by
  unfold need
  split <;> omega

theorem Adv.short {H : Hier} (hH : hdrOK H = true) {rk : Ranks} (hK : synthRanksOK H rk = true)
    {consume : Bool} {R k : Nat} {n : Name} {val : Val} {r : WState} (h : Adv H consume R k n val r) :
    ∀ b, resolve H R n = some b → Adv H consume (H.length + 1) (need H rk b - 1) n val r := by
  induction h with
  | orig hb ho =>
    exact fun _ _ => .orig (resolve_short H hH _ _ _ hb) ho
  | halt hb ho he =>
    exact fun _ _ => .halt (resolve_short H hH _ _ _ hb) ho he
  | @next k _ _ b _ _ t _ hb ho he ht hd ih =>
    intro b0 hb'
    obtain rfl := Option.some.inj (hb ▸ hb')
    obtain ⟨b2, hb2⟩ := hd.resolved
    have hk := ih b2 hb2
    -- ranks: `b` is a synthetic block of `H`
    have hbs : b ∈ synthBlocks H := by
      simp only [synthBlocks, List.mem_filter, Bool.and_eq_true, Bool.not_eq_true']
      exact ⟨resolve_mem H _ _ _ hb, (resolve_get hb).2, ho⟩
    have hrk := List.all_eq_true.mp hK b hbs
    cases hra : rk.get b.name with
    | none => simp [hra] at hrk
    | some ra =>
      simp only [hra, Bool.and_eq_true, decide_eq_true_eq, List.all_eq_true] at hrk
      simp only [need, ho, hra, Bool.false_eq_true, if_false, Option.getD_some]
      refine .next (resolve_short H hH _ _ _ hb) ho he ht (hk.mono ?_)
      by_cases ho2 : b2.isOrig = true
      · simp only [need, ho2, if_true]; omega
      · have hmem : b2.name ∈ synthArcs H b := by
          simp only [synthArcs, List.mem_filterMap]
          exact ⟨t, List.mem_of_getElem? ht, by simp [resolve_short H hH _ _ _ hb2, ho2]⟩
        have := hrk.2 b2.name hmem
        cases hrt : rk.get b2.name with
        | none => simp [hrt] at this
        | some rt =>
          simp only [hrt, Bool.and_eq_true, decide_eq_true_eq] at this
          simp only [need, ho2, hrt, Bool.false_eq_true, if_false, Option.getD_some]
          omega

theorem adv_short (H : Hier) (hH : hdrOK H = true) (rk : Ranks) (hK : synthRanksOK H rk = true)
    (consume : Bool) (R : Nat) :
    ∀ f n val r, advF H consume R f n val = r → r.isErr = false →
      ∀ b, resolve H R n = some b → ∀ f', need H rk b ≤ f' →
      advF H consume (H.length + 1) f' n val = r := by
  intro f n val r h hr b hb f' hf'
  obtain ⟨k, _, hd⟩ := adv_of_advF h hr
  exact advF_of_adv (hd.short hH hK b hb) f'
    (Nat.lt_of_lt_of_le (Nat.pred_lt (Nat.ne_of_gt (need_pos H rk b))) hf')

theorem need_le_walkFuel (H : Hier) (rk : Ranks) (b : Blk) : need H rk b ≤ walkFuel H := by
  unfold need walkFuel
  split <;> omega

/-- **The specification's fuel suffices.** An error-free walk at any fuel is the walk `sysName` shows. -/
theorem sysName_of_clean (H : Hier) (hF : fuelOK H = true) (consume : Bool) (R F : Nat) :
    ∀ (ds : List Nat) (st : WState), CleanRun (sysF H consume R F) st →
      run (sysName H consume) st ds = run (sysF H consume R F) st ds := by
  simp only [fuelOK, Bool.and_eq_true] at hF
  rw [sysName_eq_sysF]
  refine walk_eq_of_next fun b _ val d hne => ?_
  simp only [stepF] at hne ⊢
  split
  · rfl
  · next t ht =>
    rw [ht] at hne
    obtain ⟨k, _, hd⟩ := adv_of_advF rfl hne
    obtain ⟨b2, hb2⟩ := hd.resolved
    exact adv_short H hF.1 _ hF.2 consume R F t val _ rfl hne b2 hb2 _ (need_le_walkFuel H _ b2)

/-- **A certified pipeline run at the specification's own fuel** (`fuelOK` of the final hierarchy): the walk by
    name `sysName` over the final hierarchy shows exactly the trace of the input graph. -/
theorem certified_run_sysName (G : Hier) (steps : List (StepTag × Hier)) (hG : flatB G = true)
    (h : chainOKc G steps = true) (hF : fuelOK (chainLast G steps) = true)
    (n : Name) (g : Blk) (hn : G.get? n = some g) (consume : Bool) (val : Val) (ds : List Nat) :
    run (sysName (chainLast G steps) consume) (.at n val) ds = run (sysOrig G) (some n) ds := by
  have hcl := certified_run_error_free G steps hG h n g hn consume val _ _ (Nat.le_refl _) (Nat.le_refl _)
  rw [sysName_of_clean (chainLast G steps) hF consume _ _ ds _ hcl]
  exact certified_run_total G steps hG h n g hn consume val _ _ (Nat.le_refl _) (Nat.le_refl _) ds

/-- **… and region by region.** If moreover the final hierarchy is self-consistent (`wf`), every declared
    back edge runs from a loop's latch to its header (`s2`) and every container is a region (`contsOK`) —
    all three decided on the real output — then the walk that uses only the declared headers, exiting
    blocks and region targets shows exactly the input graph's trace as well. -/
theorem certified_run_region (G : Hier) (steps : List (StepTag × Hier)) (hG : flatB G = true)
    (h : chainOKc G steps = true) (hF : fuelOK (chainLast G steps) = true)
    (hwf : wf (chainLast G steps) = true) (hs2 : s2 (chainLast G steps) = true)
    (hco : contsOK (chainLast G steps) = true)
    (n : Name) (g : Blk) (hn : G.get? n = some g) (consume : Bool) (val : Val) (ds : List Nat) :
    run (sysRegion (chainLast G steps) consume) (.at n val) ds = run (sysOrig G) (some n) ds := by
  have hname := certified_run_sysName G steps hG h hF n g hn consume val
  have hcl : CleanRun (sysName (chainLast G steps) consume) (.at n val) :=
    clean_of_runs_eq hname fun ds => orig_clean G hG ds n g hn
  rw [Scfg.C04.runs_coincide_conv (chainLast G steps) ((Scfg.C04.wf_iff _).mp hwf) hs2
    (Scfg.C04.contsOK_sound _ hco) consume ds _ hcl]
  exact hname ds

example : fuelOK cxH3 = true := by decide +kernel

end Scfg.C01
