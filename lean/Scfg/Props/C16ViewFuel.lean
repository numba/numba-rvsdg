import Scfg.Props.C16Iter
/-!
# C16 — the FIFO loop of the concealed view answers whenever it has fuel for what is pending

`viewGo_total_given_fuel`: the loop of the `region_view_iterator` model, started with more fuel
than "queue length + view targets of the level's members not yet seen", answers whenever
`viewTargets` answers for every member of the level (i.e. every region's exiting block is found).
Partial: that the fuel `viewIter` passes (`|level| + Σ_H |_jump_targets| + 4`) always exceeds that
bound is not proved here (it needs the exiting blocks of distinct regions to be distinct entries).
-/
namespace Scfg.C16
open Scfg.Model

def vlen (H : Hier) (b : Blk) : Nat := match viewTargets H b with | .ok ts => ts.length | .error _ => 0

/-- view targets of the members of `L` not yet seen -/
def pendV (H : Hier) (seen : List Name) : List Blk → Nat
  | [] => 0
  | a :: L => (if seen.contains a.name then 0 else vlen H a) + pendV H seen L

theorem pendV_eq (H : Hier) (seen : List Name) : ∀ L, pendV H seen L = pending Blk.name (vlen H) seen L
  | [] => rfl
  | a :: L => by rw [pendV, pendV_eq H seen L]; rfl

theorem viewGo_total_given_fuel (H : Hier) (c : Name)
    (hin : ∀ b ∈ H.level c, ∃ ts, viewTargets H b = .ok ts) :
    ∀ (g : Nat) (queue seen out : List Name), queue.length + pendV H seen (H.level c) < g →
      ∃ r, viewGo H c g queue seen out = .ok r := by
  simp only [viewGo_eq, pendV_eq]
  refine fifo_total (fun _ _ h => getIn?_level h) fun b hb => ?_
  obtain ⟨ts, hts⟩ := hin b hb
  exact ⟨ts, [], emitView_ok.mpr ⟨hts, rfl⟩, by rw [vlen, hts]⟩

/-- non-vacuity: the premises hold inside the loop region of the hierarchy of Props/C16Iter.lean -/
example : ∃ r, viewGo okH2 "loop_region_0" 10 ["1"] [] [] = .ok r := by
  refine viewGo_total_given_fuel okH2 "loop_region_0" (fun b hb => ?_) 10 ["1"] [] []
    (by decide +kernel)
  have : ∀ b ∈ okH2.level "loop_region_0", b.isRegion = false := by decide +kernel
  exact ⟨b.jt, by rw [viewTargets, this b hb]; rfl⟩

end Scfg.C16
