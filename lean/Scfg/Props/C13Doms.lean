import Scfg.Props.C02
/-!
# C13 — the dominator fix-point computes dominance (all graphs)

`_find_dominators_internal` is a work-list algorithm. This file proves, for the model `domsGo` /
`domsInternal` / `doms` / `postDoms` (compared exactly with the code on every run), that whenever
it returns, the table it returns is *the* dominance relation of the path definition:

    a ∈ doms[n]  ↔  a = n, or every path from an entry to n passes through a

for every set of nodes, entries and predecessor/successor tables that describe one graph
(`GraphOK`), with no bound on the size. Together with `C02.doms_assert_never_fires` (the only
assertion of the loop cannot fail) and `domsInternal_total` below (the fuel suffices) this is total
correctness whenever there is an entry.

Proof: two loop invariants. *Complete*: a true dominator is never removed (the tables start at
"everything" and an update intersects tables that all contain it). *Stable*: every node that is
not on the work list satisfies its equation `doms[n] = {n} ∪ ⋂ doms[p]`; at exit the list is
empty, and any solution of the equations only contains true dominators (induction along a path
that avoids `a`).
-/
namespace Scfg.C13
open Scfg.Model Scfg.C02

/-- A path from `e` to `x` along `succs` on which `a` does not occur (end points included). -/
inductive Avoid (succs : Name → List Name) (a : Name) : Name → Name → Prop
  | refl {e : Name} : e ≠ a → Avoid succs a e e
  | step {e m x : Name} : Avoid succs a e m → x ∈ succs m → x ≠ a → Avoid succs a e x

/-- `a` dominates `n`: it is `n`, or no path from an entry reaches `n` without passing `a`
    (so everything dominates a node that no entry reaches, as in the code). -/
def Dominates (entries : List Name) (succs : Name → List Name) (a n : Name) : Prop :=
  a = n ∨ ∀ e ∈ entries, ¬ Avoid succs a e n

theorem Avoid.mono {S S' : Name → List Name} (h : ∀ n s, s ∈ S n → s ∈ S' n) {a e x : Name}
    (p : Avoid S a e x) : Avoid S' a e x := by
  induction p with
  | refl hne => exact .refl hne
  | step _ hx hne ih => exact ih.step (h _ _ hx) hne

/-- fewer entries and fewer arcs leave fewer paths to avoid `a` on -/
theorem Dominates.anti {E E' : List Name} {S S' : Name → List Name} (hE : ∀ x ∈ E', x ∈ E)
    (hS : ∀ n s, s ∈ S' n → s ∈ S n) {a n : Name} (h : Dominates E S a n) : Dominates E' S' a n :=
  Or.imp_right (fun hall e he p => hall e (hE e he) (p.mono hS)) h

/-- The tables describe one graph over `nodes`. -/
structure GraphOK (entries nodes : List Name) (preds succs : Name → List Name) : Prop where
  nodup : nodes.Nodup
  entriesIn : ∀ e ∈ entries, e ∈ nodes
  predsIn : ∀ n, ∀ p ∈ preds n, p ∈ nodes
  succsIn : ∀ n, ∀ s ∈ succs n, s ∈ nodes
  consistent : ∀ m x, x ∈ succs m ↔ m ∈ preds x
  noPredsEntry : ∀ n ∈ nodes, preds n = [] → n ∈ entries

variable {E N : List Name} {P S : Name → List Name} {d : SetMap} {t : List Name} {n : Name}

structure DInv (entries nodes : List Name) (preds succs : Name → List Name)
    (todo : List Name) (d : SetMap) : Prop where
  ent : ∀ e ∈ entries, d.get e = [e]
  complete : ∀ n ∈ nodes, ∀ a ∈ nodes, Dominates entries succs a n → a ∈ d.get n
  stable : ∀ n ∈ nodes, n ∉ entries → n ∉ todo → ∀ a, a ∈ newDomsOf d preds n ↔ a ∈ d.get n

theorem dominates_pred {a q : Name} (hd : Dominates E S a n) (hne : a ≠ n) (hq : n ∈ S q) :
    Dominates E S a q := by
  rcases hd with e | hall
  · exact absurd e hne
  · by_cases haq : a = q
    · exact Or.inl haq
    · exact Or.inr fun e he hav => hall e he (Avoid.step hav hq (Ne.symm hne))

theorem DInv.init (G : GraphOK E N P S) :
    DInv E N P S (N.filter fun n => !mem E n) (doms0 E N) := by
  refine ⟨fun e he => ?_, fun m hm b hb hdom => ?_, fun m hm hme hmt => ?_⟩
  · rw [get_doms0 (G.entriesIn e he), if_pos (mem_iff.mpr he)]
  · rw [get_doms0 hm]
    split
    · next hme =>
      -- an entry is dominated by itself only: the empty path avoids everything else
      rcases hdom with e | hall
      · exact List.mem_singleton.mpr e
      · by_cases hbm : b = m
        · exact List.mem_singleton.mpr hbm
        · exact absurd (Avoid.refl (Ne.symm hbm)) (hall m (mem_iff.mp hme))
    · exact hb
  · exact absurd (List.mem_filter.mpr ⟨hm, by simp [mem_eq_false_iff.mpr hme]⟩) hmt

theorem DInv.skip (hinv : DInv E N P S (t ++ [n]) d)
    (h : n ∈ E ∨ sameSetL (newDomsOf d P n) (d.get n) = true) : DInv E N P S t d := by
  refine ⟨hinv.ent, hinv.complete, fun m hm hme hmt a => ?_⟩
  by_cases hmn : m = n
  · subst hmn
    exact mem_iff_of_sameSetL (nodup_newDomsOf d P m) (h.resolve_left hme) a
  · exact hinv.stable m hm hme (by simp [hmt, hmn]) a

theorem DInv.set (G : GraphOK E N P S) (hinv : DInv E N P S (t ++ [n]) d) (hE : n ∉ E) :
    DInv E N P S (t ++ S n) (d.set n (newDomsOf d P n)) := by
  refine ⟨fun e he => ?_, fun m hm a ha hdom => ?_, fun m hm hme hmt a => ?_⟩
  · rw [SetMap.get_set, if_neg fun hh : e = n => hE (hh ▸ he)]
    exact hinv.ent e he
  · rw [SetMap.get_set]
    split
    · next hmn =>
      subst hmn
      -- a dominator of `m` other than `m` dominates all predecessors, and their sets are complete
      by_cases ham : a = m
      · exact mem_newDomsOf.mpr (Or.inl ham)
      · exact mem_newDomsOf.mpr (Or.inr ⟨fun hnil => hE (G.noPredsEntry m hm hnil), fun q hq =>
          hinv.complete q (G.predsIn m q hq) a ha
            (dominates_pred hdom ham ((G.consistent q m).mpr hq))⟩)
    · exact hinv.complete m hm a ha hdom
  · -- `m` is off the list, hence no successor of `n`: its equation reads the old table
    have hget : ∀ q ∈ P m, (d.set n (newDomsOf d P n)).get q = d.get q := fun q hq => by
      rw [SetMap.get_set, if_neg fun hh : q = n =>
        hmt (List.mem_append_right _ ((G.consistent n m).mpr (hh ▸ hq)))]
    have hcongr : a ∈ newDomsOf (d.set n (newDomsOf d P n)) P m ↔ a ∈ newDomsOf d P m :=
      ⟨newDomsOf_mono fun q hq => (hget q hq ▸ ·), newDomsOf_mono fun q hq => (hget q hq ▸ ·)⟩
    rw [hcongr, SetMap.get_set]
    split
    · next hmn => rw [hmn]
    · next hmn =>
      refine hinv.stable m hm hme (fun hh => ?_) a
      rcases List.mem_append.mp hh with h1 | h1
      · exact hmt (List.mem_append_left _ h1)
      · exact hmn (List.mem_singleton.mp h1)

/-- Any table that satisfies the equations off the entries only contains true dominators. -/
theorem DInv.sound (G : GraphOK E N P S) (hinv : DInv E N P S [] d) {a : Name} (hn : n ∈ N)
    (ha : a ∈ d.get n) : Dominates E S a n := by
  by_cases han : a = n
  · exact Or.inl han
  · right
    intro e he hav
    -- along a path avoiding `a`, `a` is in no table
    have key : ∀ x, Avoid S a e x → x ∈ N → a ∉ d.get x := by
      intro x hp
      induction hp with
      | refl hne =>
        intro _ hmem
        rw [hinv.ent e he] at hmem
        exact hne (List.mem_singleton.mp hmem).symm
      | @step m x hp hx hxa ihp =>
        intro hxn hmem
        by_cases hxe : x ∈ E
        · rw [hinv.ent x hxe] at hmem
          exact hxa (List.mem_singleton.mp hmem).symm
        · have hm : m ∈ P x := (G.consistent m x).mp hx
          rcases mem_newDomsOf.mp ((hinv.stable x hxn hxe List.not_mem_nil a).mpr hmem) with e1 | ⟨_, hall⟩
          · exact hxa e1.symm
          · exact ihp (G.predsIn x m hm) (hall m hm)
    exact key n hav hn ha

/-- The loop reads its list from the end. -/
theorem eq_dropLast_snoc {todo : List Name} (h : todo.getLast? = some n) :
    todo = todo.dropLast ++ [n] := by
  obtain ⟨t, rfl⟩ := List.getLast?_eq_some_iff.mp h
  rw [List.dropLast_concat]

theorem domsGo_correct (G : GraphOK E N P S) {f : Nat} {todo : List Name} {d : SetMap}
    (hinv : DInv E N P S todo d) {d' : SetMap} (h : domsGo E P S f todo d = .ok d') :
    DInv E N P S [] d' := by
  fun_induction domsGo E P S f todo d with
  | case1 | case5 => cases h -- out of fuel; the assertion fails
  | case2 _ _ _ hl => -- the list is empty
    cases h
    exact List.getLast?_eq_none_iff.mp hl ▸ hinv
  | case3 _ _ _ _ hl _ hE ih => -- the last name is skipped: an entry
    exact ih ((eq_dropLast_snoc hl ▸ hinv).skip (Or.inl (mem_iff.mp hE))) h
  | case4 _ _ _ _ hl _ _ _ _ hsame ih => -- the last name is skipped: its set is unchanged
    exact ih ((eq_dropLast_snoc hl ▸ hinv).skip (Or.inr hsame)) h
  | case6 _ _ _ _ hl _ hE _ _ _ _ ih => -- the table is updated at `n`, its successors are pushed
    exact ih ((eq_dropLast_snoc hl ▸ hinv).set G (mt mem_iff.mpr hE)) h

/-- **`_find_dominators_internal` computes dominance**: whenever the model returns a table, then
    for all nodes `n`, `a`: `a ∈ table[n]` iff `a` dominates `n` — for every graph, any size. -/
theorem domsInternal_correct (entries nodes : List Name) (preds succs : Name → List Name)
    (G : GraphOK entries nodes preds succs) (d : SetMap)
    (h : domsInternal entries nodes preds succs = .ok d) (n a : Name) (hn : n ∈ nodes)
    (ha : a ∈ nodes) : a ∈ d.get n ↔ Dominates entries succs a n := by
  have hE : entries ≠ [] := by
    rintro rfl
    cases h
  rw [domsInternal_eq hE] at h
  have hfin := domsGo_correct G (DInv.init G) h
  exact ⟨hfin.sound G hn, hfin.complete n hn a ha⟩

/-! ## Totality: the fuel of the model always suffices

`tot` adds up the sizes of all tables; an update shrinks one table (the loop has just tested
`len(new_doms) < len(doms[n])`, so `domsGo_fuel` needs no invariant), a non-update shortens the work
list, so `|todo| + N · tot` decreases in every iteration (`N` = number of nodes, which also bounds
the successors pushed by an update). The initial value is at most `N + N³`, below the fuel
`N²(N+2) + 16` that `domsInternal` provides. Under `C02.Inv` nothing but the fuel can fail
(`C02.domsGo_error`), so the model returns a table whenever there is an entry. -/

def tot (nodes : List Name) (d : SetMap) : Nat := (nodes.map fun m => (d.get m).length).sum

theorem tot_set_lt {v : List Name} (hn : n ∈ N) (hlt : v.length < (d.get n).length) :
    tot N (d.set n v) + 1 ≤ tot N d := by
  refine sum_map_add_le _ _ N (fun m _ => ?_) hn ?_
  · show ((d.set n v).get m).length ≤ (d.get m).length
    rw [SetMap.get_set]
    split
    · next e => rw [e]; omega
    · exact Nat.le_refl _
  · show ((d.set n v).get n).length + 1 ≤ (d.get n).length
    rw [SetMap.get_set, if_pos rfl]
    omega

theorem tot_doms0_le : tot N (doms0 E N) ≤ N.length * N.length := by
  refine Nat.le_trans (sum_map_le _ (fun _ => N.length) N fun m hm => ?_) ?_
  · show ((doms0 E N).get m).length ≤ N.length
    rw [get_doms0 hm]
    split
    · exact List.length_pos_of_mem hm
    · exact Nat.le_refl _
  · rw [List.map_const', List.sum_replicate_nat]
    exact Nat.le_refl _

theorem domsGo_fuel (hs : ∀ n, ∀ s ∈ S n, s ∈ N) (hsl : ∀ n, (S n).length ≤ N.length) {f : Nat}
    {todo : List Name} {d : SetMap} (htodo : ∀ t ∈ todo, t ∈ N)
    (hlt : todo.length + N.length * tot N d < f) :
    domsGo E P S f todo d ≠ .error ⟨"OutOfFuel", "_find_dominators_internal"⟩ := by
  fun_induction domsGo E P S f todo d with
  | case1 => omega -- out of fuel
  | case2 => exact fun h => nomatch h -- the list is empty
  | case3 _ todo _ _ hl _ _ ih | case4 _ todo _ _ hl _ _ _ _ _ ih =>
    -- the last name is skipped: an entry, or its set is unchanged
    rw [eq_dropLast_snoc hl, List.length_append, List.length_singleton, Nat.add_right_comm] at hlt
    exact ih (fun x hx => htodo x (List.dropLast_subset todo hx)) (Nat.lt_of_succ_lt_succ hlt)
  | case5 => simp [assertionAt] -- the assertion fails: another error
  | case6 _ todo _ n hl _ _ new _ _ hlen ih => -- the table is updated at `n`, its successors are pushed
    refine ih (List.forall_mem_append.mpr ⟨fun x hx => htodo x (List.dropLast_subset todo hx), hs n⟩) ?_
    have hmul := Nat.mul_le_mul_left N.length
      (tot_set_lt (v := new) (htodo n (List.mem_of_getLast? hl)) (by simpa using hlen))
    have := hsl n
    rw [Nat.mul_succ] at hmul
    rw [eq_dropLast_snoc hl, List.length_append, List.length_singleton] at hlt
    rw [List.length_append]
    -- the goal speaks of the model's `let todo' := todo.dropLast`
    show todo.dropLast.length + _ + _ < _
    omega

/-- **Totality of `_find_dominators_internal` (model)**: with at least one entry, for any tables
    over the nodes, the model returns a table (on a graph, `domsInternal_correct` says which). -/
theorem domsInternal_total (entries nodes : List Name) (preds succs : Name → List Name)
    (hp : ∀ n, ∀ p ∈ preds n, p ∈ nodes) (hs : ∀ n, ∀ s ∈ succs n, s ∈ nodes)
    (hsl : ∀ n, (succs n).length ≤ nodes.length) (hent : entries ≠ []) :
    ∃ d, domsInternal entries nodes preds succs = .ok d := by
  rw [domsInternal_eq hent]
  have htodo : ∀ t ∈ nodes.filter fun n => !mem entries n, t ∈ nodes := fun t ht =>
    (List.mem_filter.mp ht).1
  cases h : domsGo entries preds succs _ _ _ with
  | ok d => exact ⟨d, rfl⟩
  | error e =>
    cases domsGo_error hs (Inv.init hp) htodo e h
    refine absurd h (domsGo_fuel hs hsl htodo ?_)
    have h1 := List.length_filter_le (fun n => !mem entries n) nodes
    have h2 := Nat.mul_le_mul_left nodes.length (tot_doms0_le (E := entries) (N := nodes))
    have h3 := Nat.le_mul_self nodes.length
    rw [Nat.mul_add, Nat.mul_assoc nodes.length nodes.length nodes.length]
    omega

/-! ### The two instances: `_doms` and `_post_doms` of a level -/

theorem level_consistent (lvl : List Blk) (m x : Name) :
    x ∈ inLevelSuccs lvl m ↔ m ∈ inLevelPreds lvl x := by
  rw [mem_inLevelSuccs, mem_inLevelPreds]
  constructor
  · intro h
    obtain ⟨⟨b, hb, hbm⟩, _⟩ := succIn_mem h
    exact ⟨b, hb, hbm, hbm ▸ h⟩
  · rintro ⟨b, _, rfl, hx⟩
    exact hx

/-- With the nodes that have no predecessor as entries, any two tables over `N` that describe the
    same arcs are one graph. -/
theorem graphOK_of_consistent (hnd : N.Nodup) (hP : ∀ n, ∀ p ∈ P n, p ∈ N)
    (hS : ∀ n, ∀ s ∈ S n, s ∈ N) (hc : ∀ m x, x ∈ S m ↔ m ∈ P x) :
    GraphOK (N.filter fun n => (P n).isEmpty) N P S where
  nodup := hnd
  entriesIn := fun e he => (List.mem_filter.mp he).1
  predsIn := hP
  succsIn := hS
  consistent := hc
  noPredsEntry := fun n hn hnil => List.mem_filter.mpr ⟨hn, by rw [hnil]; rfl⟩

/-- **`_doms`**: on every level with distinct names, the table returned is exactly dominance
    with respect to the blocks without in-level predecessor. -/
theorem doms_correct (H : Hier) (c : Name) (hnd : ((H.level c).map (·.name)).Nodup) (d : SetMap)
    (h : doms H c = .ok d) (n a : Name) (hn : n ∈ (H.level c).map (·.name))
    (ha : a ∈ (H.level c).map (·.name)) :
    a ∈ d.get n ↔
      Dominates (((H.level c).map (·.name)).filter fun n => (inLevelPreds (H.level c) n).isEmpty)
        (inLevelSuccs (H.level c)) a n :=
  domsInternal_correct _ _ _ _ (graphOK_of_consistent hnd (inLevelPreds_node _) (inLevelSuccs_node _)
    (level_consistent _)) d h n a hn ha

/-- **`_post_doms`**: the same on the reversed graph, entries = blocks without in-level
    successor: `a ∈ table[n]` iff every path from `n` to an exit passes `a`. -/
theorem postDoms_correct (H : Hier) (c : Name) (hnd : ((H.level c).map (·.name)).Nodup)
    (d : SetMap) (h : postDoms H c = .ok d) (n a : Name) (hn : n ∈ (H.level c).map (·.name))
    (ha : a ∈ (H.level c).map (·.name)) :
    a ∈ d.get n ↔
      Dominates (((H.level c).map (·.name)).filter fun n => (inLevelSuccs (H.level c) n).isEmpty)
        (inLevelPreds (H.level c)) a n :=
  domsInternal_correct _ _ _ _ (graphOK_of_consistent hnd (inLevelSuccs_node _) (inLevelPreds_node _)
    fun m x => (level_consistent _ x m).symm) d h n a hn ha

theorem inLevelSuccs_len (lvl : List Blk) (n : Name) :
    (inLevelSuccs lvl n).length ≤ (lvl.map (·.name)).length :=
  (nodup_dedup _).length_le_of_subset fun s hs => inLevelSuccs_node lvl n s hs

theorem inLevelPreds_len (lvl : List Blk) (n : Name) :
    (inLevelPreds lvl n).length ≤ (lvl.map (·.name)).length :=
  (List.filter_sublist.map _).length_le

/-- **`_doms`, total correctness of the model**: on every level with distinct names that has a
    block without in-level predecessor, the model returns a table, and the table is dominance. -/
theorem doms_total (H : Hier) (c : Name) (hnd : ((H.level c).map (·.name)).Nodup)
    (hent : (((H.level c).map (·.name)).filter fun n => (inLevelPreds (H.level c) n).isEmpty) ≠ []) :
    ∃ d, doms H c = .ok d ∧ ∀ n ∈ (H.level c).map (·.name), ∀ a ∈ (H.level c).map (·.name),
      (a ∈ d.get n ↔
        Dominates (((H.level c).map (·.name)).filter fun n => (inLevelPreds (H.level c) n).isEmpty)
          (inLevelSuccs (H.level c)) a n) := by
  obtain ⟨d, hd⟩ := domsInternal_total _ _ _ _ (inLevelPreds_node _) (inLevelSuccs_node _)
    (inLevelSuccs_len _) hent
  exact ⟨d, hd, fun n hn a ha => doms_correct H c hnd d hd n a hn ha⟩

/-- **`_post_doms`, total correctness of the model.** -/
theorem postDoms_total (H : Hier) (c : Name) (hnd : ((H.level c).map (·.name)).Nodup)
    (hent : (((H.level c).map (·.name)).filter fun n => (inLevelSuccs (H.level c) n).isEmpty) ≠ []) :
    ∃ d, postDoms H c = .ok d ∧ ∀ n ∈ (H.level c).map (·.name), ∀ a ∈ (H.level c).map (·.name),
      (a ∈ d.get n ↔
        Dominates (((H.level c).map (·.name)).filter fun n => (inLevelSuccs (H.level c) n).isEmpty)
          (inLevelPreds (H.level c)) a n) := by
  obtain ⟨d, hd⟩ := domsInternal_total _ _ _ _ (inLevelSuccs_node _) (inLevelPreds_node _)
    (inLevelPreds_len _) hent
  exact ⟨d, hd, fun n hn a ha => postDoms_correct H c hnd d hd n a hn ha⟩

/-! Non-vacuity: the diamond `0→(1,2) 1→3 2→3` — the model returns, `0` dominates `3`, `1` does
not (the path `0,2,3` avoids it). -/
def diamond : Hier := [
  { cont := "m", name := "0", jts := ["1", "2"] }, { cont := "m", name := "1", jts := ["3"] },
  { cont := "m", name := "2", jts := ["3"] }, { cont := "m", name := "3" }]

example : ((doms diamond "m").toOption.map fun d => (d.get "3")) = some ["3", "0"] ∨
    ((doms diamond "m").toOption.map fun d => (d.get "3")) = some ["0", "3"] := by decide +kernel

example : ¬ Dominates ["0"] (inLevelSuccs (diamond.level "m")) "1" "3" := by
  rintro (e | hall)
  · exact absurd e (by decide)
  · -- the path `0, 2, 3`
    exact hall "0" (List.mem_singleton_self _)
      (.step (m := "2") (.step (m := "0") (.refl (by decide)) (by decide +kernel) (by decide))
        (by decide +kernel) (by decide))

end Scfg.C13
