import Scfg.Props.C13Doms
/-!
# C12 — the dominator fix-point does not depend on iteration order (a priori)

`_find_dominators_internal` iterates Python `set`s (entries, successor sets) and processes a work
list whose order follows them. `doms_order_free`: for **any** two presentations of the same graph —
the same entries, nodes and successor sets, listed in any two orders — whenever the model of the
algorithm answers on both, the two tables agree, entry for entry, as sets. (Both equal path
dominance by `domsInternal_correct`, and path dominance only speaks about membership.)
-/
namespace Scfg.C12
open Scfg.Model Scfg.C13

theorem doms_order_free (E E' N N' : List Name) (P P' S S' : Name → List Name)
    (G : GraphOK E N P S) (G' : GraphOK E' N' P' S')
    (hE : ∀ x, x ∈ E ↔ x ∈ E') (hN : ∀ x, x ∈ N ↔ x ∈ N') (hS : ∀ n s, s ∈ S n ↔ s ∈ S' n)
    (d d' : SetMap) (h : domsInternal E N P S = .ok d) (h' : domsInternal E' N' P' S' = .ok d')
    (n a : Name) (hn : n ∈ N) (ha : a ∈ N) : a ∈ d.get n ↔ a ∈ d'.get n := by
  rw [domsInternal_correct E N P S G d h n a hn ha,
    domsInternal_correct E' N' P' S' G' d' h' n a ((hN n).mp hn) ((hN a).mp ha)]
  exact ⟨Dominates.anti (fun x => (hE x).mpr) fun n s => (hS n s).mpr,
    Dominates.anti (fun x => (hE x).mp) fun n s => (hS n s).mp⟩

end Scfg.C12
