import Scfg.Model.Render
import Scfg.Props.C17
import Scfg.Lemmas.Hier
/-!
# C17 — the model of the renderer's control flow, a priori (all hierarchies)

* `renderNodes_exact` — whenever the model of `render_block` / `render_region_block` answers, the
  nodes and clusters it draws are, as sets, exactly `Drawn`: a node for every non-region block of the
  level in the enclosing cluster, a cluster for every region in the enclosing cluster, and recursively
  what is drawn for each region's own graph inside that region's cluster (any nesting depth).
* `renderEdges_exact` — whenever the model of `render_edges` answers, the edges are exactly: for
  every non-region block the hierarchy iterator yields, one solid edge per jump target and one
  dashed edge per back edge, to the block `find_base_header` reaches from the target.
* `renderEdges_eq_spec` — if the iterator yields every block (C16) and names are unique (C04), these
  are exactly the edges of the specification `specDrawing` (destination = innermost header).
-/
namespace Scfg.C17
open Scfg.Model Scfg.Spec

/-! ## Nodes and clusters -/

/-- what is drawn for container `c` inside cluster `cl`: `false` = a node, `true` = a cluster -/
inductive Drawn (H : Hier) : Name → Name → Bool → Name × Name → Prop
  | node {c cl b} : b ∈ H.level c → b.isRegion = false → Drawn H c cl false (b.name, cl)
  | cluster {c cl b} : b ∈ H.level c → b.isRegion = true → Drawn H c cl true (b.name, cl)
  | inside {c cl b k p} : b ∈ H.level c → b.isRegion = true → Drawn H b.name b.name k p →
      Drawn H c cl k p

/-- what entry `b` of a level drawn inside cluster `cl` contributes: itself, and if it is a region
    what is drawn for its own graph -/
def DrawnAt (H : Hier) (cl : Name) (k : Bool) (b : Blk) (p : Name × Name) : Prop :=
  (b.isRegion = k ∧ p = (b.name, cl)) ∨ (b.isRegion = true ∧ Drawn H b.name b.name k p)

theorem drawn_iff {H : Hier} {c cl : Name} {k : Bool} {p : Name × Name} :
    Drawn H c cl k p ↔ ∃ b ∈ H.level c, DrawnAt H cl k b p := by
  constructor
  · intro h
    cases h with
    | node hb hr => exact ⟨_, hb, Or.inl ⟨hr, rfl⟩⟩
    | cluster hb hr => exact ⟨_, hb, Or.inl ⟨hr, rfl⟩⟩
    | inside hb hr hin => exact ⟨_, hb, Or.inr ⟨hr, hin⟩⟩
  · rintro ⟨b, hb, ⟨hr, rfl⟩ | ⟨hr, hin⟩⟩
    · cases k
      · exact .node hb hr
      · exact .cluster hb hr
    · exact .inside hb hr hin

/-- body of the `foldlM` in `renderNodes` (by `rfl`) -/
def nodeStep (H : Hier) (byteflow : Bool) (f : Nat) (cl : Name)
    (acc : List (Name × Name) × List (Name × Name)) (b : Blk) :
    M (List (Name × Name) × List (Name × Name)) :=
  if b.isRegion then do
    let (ns, cs) ← renderNodes H byteflow f b.name b.name
    pure (acc.1 ++ ns, acc.2 ++ [(b.name, cl)] ++ cs)
  else if b.kind == .ast && byteflow then .error ⟨"AttributeError", "render_block"⟩
  else pure (acc.1 ++ [(b.name, cl)], acc.2)

theorem nodeStep_mem {H : Hier} {bf : Bool} {f : Nat} {cl : Name}
    {acc acc' : List (Name × Name) × List (Name × Name)} {b : Blk}
    (ih : ∀ ns cs, renderNodes H bf f b.name b.name = .ok (ns, cs) →
      (∀ p, p ∈ ns ↔ Drawn H b.name b.name false p) ∧ (∀ p, p ∈ cs ↔ Drawn H b.name b.name true p))
    (h : nodeStep H bf f cl acc b = .ok acc') (p : Name × Name) :
    (p ∈ acc'.1 ↔ p ∈ acc.1 ∨ DrawnAt H cl false b p) ∧
    (p ∈ acc'.2 ↔ p ∈ acc.2 ∨ DrawnAt H cl true b p) := by
  revert h
  fun_cases nodeStep H bf f cl acc b with
  | case1 hreg => -- a region: its cluster, and what its own graph draws
    intro h
    obtain ⟨⟨ns, cs⟩, hr, h⟩ := bind_eq_ok h
    cases h
    simp [DrawnAt, hreg, (ih ns cs hr).1 p, (ih ns cs hr).2 p]
  | case2 => intro h; cases h -- an AST block under the `ByteFlowRenderer`
  | case3 hreg => intro h; cases h; simp [DrawnAt, hreg] -- a node

theorem renderNodes_exact (H : Hier) (bf : Bool) : ∀ (f : Nat) (c cl : Name) ns cs,
    renderNodes H bf f c cl = .ok (ns, cs) →
    (∀ p, p ∈ ns ↔ Drawn H c cl false p) ∧ (∀ p, p ∈ cs ↔ Drawn H c cl true p) := by
  intro f c cl
  fun_induction renderNodes H bf f c cl with
  | case1 => intro ns cs h; cases h
  | case2 f c cl ih => -- the loop over the level, with body `nodeStep`
    intro ns cs h
    refine ⟨fun p => ?_, fun p => ?_⟩
    · rw [drawn_iff, foldlM_mem (m := Prod.fst) (P := DrawnAt H cl false)
        (fun _ _ _ hs p => (nodeStep_mem (ih _) hs p).1) h p]
      exact or_iff_right List.not_mem_nil
    · rw [drawn_iff, foldlM_mem (m := Prod.snd) (P := DrawnAt H cl true)
        (fun _ _ _ hs p => (nodeStep_mem (ih _) hs p).2) h p]
      exact or_iff_right List.not_mem_nil

/-- **Nothing foreign is drawn**: every node / cluster the model draws for the top container is a
    node / cluster of the specification (the right name in the right enclosing cluster), provided
    the container's name is not a block's name. -/
theorem drawn_in_spec (H : Hier) (top : Name) (htop : ∀ b ∈ H, b.name ≠ top) :
    ∀ c cl k p, Drawn H c cl k p → cl = (if c == top then "" else c) →
      (k = false → p ∈ (specDrawing H top).nodes) ∧ (k = true → p ∈ (specDrawing H top).clusters) := by
  intro c cl k p h
  induction h with
  | @node c cl b hb hr =>
    rintro rfl
    obtain ⟨hm, rfl⟩ := mem_level.mp hb
    exact ⟨fun _ => (spec_nodes H top _ _).mpr ⟨b, hm, hr, rfl, rfl⟩, fun hk => nomatch hk⟩
  | @cluster c cl b hb hr =>
    rintro rfl
    obtain ⟨hm, rfl⟩ := mem_level.mp hb
    exact ⟨(fun hk => nomatch hk), fun _ => (spec_clusters H top _ _).mpr ⟨b, hm, hr, rfl, rfl⟩⟩
  | @inside c cl b k p hb _ _ ih =>
    intro _
    exact ih (if_neg fun e => htop b (mem_level.mp hb).1 (beq_iff_eq.mp e)).symm

/-! ## Edges -/

/-- the destination `render_edges` computes for a target name (`none` = `KeyError`) -/
def resolveB (H : Hier) (order : List Name) (t : Name) : Option Blk :=
  (blocksGet H order t).bind (findBaseHeader H order (H.length + 1))

/-- the step of the loops over `jump_targets` (`dashed = false`: a `KeyError` is skipped) and over
    `backedges` (`dashed = true`: a `KeyError` escapes) of one source block -/
def tgtStep (H : Hier) (order : List Name) (src : Blk) (dashed : Bool)
    (acc : List (Name × Name × Bool)) (t : Name) : M (List (Name × Name × Bool)) :=
  match resolveB H order t with
  | none => if dashed then .error (keyErrorAt "render_edges") else pure acc
  | some d =>
    if order.contains d.name then pure (acc ++ [(src.name, d.name, dashed)])
    else .error ⟨"Exception", "render_edges"⟩

/-- body of the outer `foldlM` in `renderEdges` (`renderEdges_unfold`) -/
def srcStep (H : Hier) (order : List Name) (acc : List (Name × Name × Bool)) (n : Name) :
    M (List (Name × Name × Bool)) :=
  match blocksGet H order n with
  | none => pure acc
  | some src =>
    if src.isRegion then pure acc
    else do
      let acc ← src.jt.foldlM (tgtStep H order src false) acc
      src.bes.foldlM (tgtStep H order src true) acc

theorem renderEdges_unfold (H : Hier) (top : Name) :
    renderEdges H top = (do
      let order ← iterAll H (H.length + 2) top
      (dedup order).foldlM (srcStep H (dedup order)) []) := by
  rfl

theorem tgtStep_ok {H : Hier} {order : List Name} {src : Blk} {k : Bool}
    (acc : List (Name × Name × Bool)) (t : Name) (acc' : List (Name × Name × Bool))
    (h : tgtStep H order src k acc t = .ok acc') (e : Name × Name × Bool) :
    e ∈ acc' ↔ e ∈ acc ∨ ∃ d, resolveB H order t = some d ∧ e = (src.name, d.name, k) := by
  revert h
  fun_cases tgtStep H order src k acc t with
  | case1 | case4 => intro h; cases h -- a `KeyError` on a back edge; a destination outside `blocks`
  | case2 hr => intro h; cases h; simp [hr] -- a `KeyError` on a jump target: no edge
  | case3 d hr => intro h; cases h; simp [hr] -- the edge to `d`

/-- the edges the renderer draws from one source block -/
def EdgeFrom (H : Hier) (order : List Name) (src : Blk) (e : Name × Name × Bool) : Prop :=
  (∃ t ∈ src.jt, ∃ d, resolveB H order t = some d ∧ e = (src.name, d.name, false)) ∨
  (∃ t ∈ src.bes, ∃ d, resolveB H order t = some d ∧ e = (src.name, d.name, true))

theorem srcStep_ok {H : Hier} {order : List Name} (acc : List (Name × Name × Bool)) (n : Name)
    (acc' : List (Name × Name × Bool)) (h : srcStep H order acc n = .ok acc')
    (e : Name × Name × Bool) :
    e ∈ acc' ↔ e ∈ acc ∨ ∃ src, blocksGet H order n = some src ∧ src.isRegion = false ∧
      EdgeFrom H order src e := by
  revert h
  fun_cases srcStep H order acc n with
  | case1 hg => intro h; cases h; simp [hg] -- not in `blocks`
  | case2 src hg hreg => intro h; cases h; simp [hg, hreg] -- a region: no edges
  | case3 src hg hreg => -- a block: its jump targets, then its back edges
    intro h
    obtain ⟨acc1, hj, hb⟩ := bind_eq_ok h
    rw [foldlM_mem (m := fun l => l) tgtStep_ok hb e,
      foldlM_mem (m := fun l => l) tgtStep_ok hj e, or_assoc]
    refine or_congr_right ⟨fun h => ⟨src, hg, Bool.not_eq_true _ ▸ hreg, h⟩, fun ⟨src', hg', _, h⟩ => ?_⟩
    cases hg.symm.trans hg'
    exact h

theorem renderEdges_exact (H : Hier) (top : Name) (es : List (Name × Name × Bool))
    (h : renderEdges H top = .ok es) :
    ∃ order, iterAll H (H.length + 2) top = .ok order ∧
      ∀ e, e ∈ es ↔ ∃ n ∈ dedup order, ∃ src, blocksGet H (dedup order) n = some src ∧
        src.isRegion = false ∧ EdgeFrom H (dedup order) src e := by
  rw [renderEdges_unfold] at h
  obtain ⟨order, ho, hs⟩ := bind_eq_ok h
  refine ⟨order, ho, fun e => ?_⟩
  rw [foldlM_mem (m := fun l => l) srcStep_ok hs e]
  exact or_iff_right List.not_mem_nil

/-! ## Against the specification -/

/-- when the iterator yields every block, the renderer's lookup is the hierarchy-wide lookup -/
theorem blocksGet_eq {H : Hier} {order : List Name} (hcov : ∀ b ∈ H, b.name ∈ order) (n : Name) :
    blocksGet H order n = H.get? n := by
  unfold blocksGet
  split
  · rfl
  · next hn =>
    cases hg : H.get? n with
    | none => rfl
    | some b =>
      obtain ⟨hb, hbn⟩ := get?_mem hg
      exact absurd (List.contains_iff_mem.mpr (hbn ▸ hcov b hb)) hn

/-- under the same hypothesis, `find_base_header` from `blocks[t]` is the specification's `resolve` -/
theorem resolveB_eq {H : Hier} {order : List Name} (hcov : ∀ b ∈ H, b.name ∈ order) :
    ∀ (f : Nat) (t : Name),
      (blocksGet H order t).bind (findBaseHeader H order f) = resolve H f t := by
  intro f t
  rw [blocksGet_eq hcov]
  fun_induction resolve H f t with
  | case1 t => cases H.get? t <;> rfl -- no fuel
  | case2 f t hg => rw [hg]; rfl -- no block of that name
  | case3 f t b hg hr ih => -- a region: both go on from its header
    rw [hg, Option.bind_some, findBaseHeader, if_pos hr, blocksGet_eq hcov, ← ih]
    cases H.get? b.header <;> rfl
  | case4 f t b hg hr => rw [hg, Option.bind_some, findBaseHeader, if_neg hr] -- a block: both stop

/-- the specification's edges, in the renderer's terms -/
theorem spec_edges_mem (H : Hier) (top : Name) {order : List Name} (hcov : ∀ b ∈ H, b.name ∈ order)
    (e : Name × Name × Bool) :
    e ∈ (specDrawing H top).edges ↔ ∃ b ∈ H, b.isRegion = false ∧ EdgeFrom H order b e := by
  -- the specification folds `acc ++ solid b ++ dashed b` over the blocks, which is a `flatMap`; both sides
  -- then list the same edges
  simp only [specDrawing, EdgeFrom, resolveB, resolveB_eq hcov, List.append_assoc,
    ← List.flatMap_eq_foldl, List.mem_flatMap, List.mem_filter, List.mem_append, List.mem_filterMap,
    Option.map_eq_some_iff, Bool.not_eq_true', and_assoc, @eq_comm _ _ e]

/-- **The model draws exactly the specified edges** whenever the hierarchy iterator yields every
    block (C16) and names are unique (C04): a solid edge per jump target and a dashed edge per back
    edge of every non-region block, to the innermost header block of the destination. -/
theorem renderEdges_eq_spec (H : Hier) (top : Name) (es : List (Name × Name × Bool))
    (h : renderEdges H top = .ok es) (hu : H.names.Nodup)
    (hcov : ∀ order, iterAll H (H.length + 2) top = .ok order → ∀ b ∈ H, b.name ∈ order) :
    ∀ e, e ∈ es ↔ e ∈ (specDrawing H top).edges := by
  obtain ⟨order, ho, hes⟩ := renderEdges_exact H top es h
  have hc : ∀ b ∈ H, b.name ∈ dedup order := fun b hb => mem_dedup.mpr (hcov order ho b hb)
  intro e
  rw [hes e, spec_edges_mem H top hc]
  -- the sources the renderer finds by name are the blocks of the hierarchy
  constructor
  · rintro ⟨n, _, src, hg, hedge⟩
    rw [blocksGet_eq hc] at hg
    exact ⟨src, (get?_mem hg).1, hedge⟩
  · rintro ⟨b, hb, hedge⟩
    exact ⟨b.name, hc b hb, b, (blocksGet_eq hc _).trans (get?_of_mem hu hb), hedge⟩

end Scfg.C17
