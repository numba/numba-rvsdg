import Scfg.Props.C14
/-!
# C14 — `insert_block_and_control_blocks`, one plain predecessor (model, a priori)

For a predecessor that is not a region the model of `insert_block_and_control_blocks` is a pure
fold (`insertCtl_single`): per rerouted arc — the predecessor's successors that lie in `S`, sorted —
one fresh assignment block `synth_asign_block_k → new` assigning the head's variable the next
value, the predecessor's arc replaced position-wise by that block, and the head's table extended by
`value ↦ original target`. `ctl_table` / `ctl_counter` then give, for every list of arcs and every
start value `v0`: the table maps `v0 + k`, the value handed out for the `k`-th arc, to that arc's original
target — "each rerouted arc gets its own assignment block so that the new head continues to that
arc's original target". (That the `k`-th assignment block carries `v0 + k` is `ctl_counter` on the first `k`
arcs with `ctl_last_block`; it is not stated as a theorem of its own.)
-/
namespace Scfg.C14
open Scfg.Model Scfg.C06

/-- hierarchy, name generator, next value (`.2.2.1`), table (`.2.2.2.1`), the predecessor's tuple (`.2.2.2.2`) -/
abbrev CtlSt := Hier × NameGen × Int × List (Int × Name) × List Name

/-- the assignment block created for one rerouted arc -/
def asgBlk (c new var an : Name) (v : Int) : Blk :=
  { cont := c, name := an, kind := .synthAssign, jts := [new], asg := [(var, v)] }

/-- one rerouted arc of a plain predecessor -/
def ctlInner (c new var : Name) (a : CtlSt) (s : Name) : CtlSt :=
  let an := (a.2.1.newBlockName "synth_asign").1
  (putIn a.1 (asgBlk c new var an a.2.2.1), (a.2.1.newBlockName "synth_asign").2, a.2.2.1 + 1,
   tblSet a.2.2.2.1 a.2.2.1 s,
   match idxOf a.2.2.2.2 s with
   | some i => a.2.2.2.2.set i an
   | none => a.2.2.2.2)

/-- the body of `insertCtl`'s inner loop as a function of its own; `insertCtl_single` identifies the two (up to
    instances, hence its `erw`) -/
def ctlInnerM (c new var : Name) (blk : Blk) (a : CtlSt) (s : Name) : M CtlSt := do
  let (H, ng, v, tbl, jt) := a
  let (an, ng') := ng.newBlockName "synth_asign"
  let H1 := putIn H { cont := c, name := an, kind := .synthAssign, jts := [new], asg := [(var, v)] }
  let jt' := match idxOf jt s with
    | some i => jt.set i an
    | none => jt
  let H2 ← renameInExiting H1 (H1.length + 1) blk s an
  pure (H2, ng', v + 1, tblSet tbl v s, jt')

theorem ctlInnerM_plain (c new var : Name) (blk : Blk) (hreg : blk.isRegion = false) (a : CtlSt)
    (s : Name) : ctlInnerM c new var blk a s = .ok (ctlInner c new var a s) := by
  obtain ⟨H, ng, v, tbl, jt⟩ := a
  simp only [ctlInnerM, renameInExiting_plain hreg, bind, Except.bind, pure, Except.pure,
    ctlInner, asgBlk]

theorem ctlFoldM_plain (c new var : Name) (blk : Blk) (hreg : blk.isRegion = false) :
    ∀ (hits : List Name) (a : CtlSt),
      hits.foldlM (ctlInnerM c new var blk) a = .ok (hits.foldl (ctlInner c new var) a) := by
  intro hits a
  rw [show ctlInnerM c new var blk = fun a s => pure (ctlInner c new var a s) from
    funext fun a => funext fun s => ctlInnerM_plain c new var blk hreg a s, List.foldlM_pure]
  rfl

theorem ctl_counter (c new var : Name) : ∀ (hits : List Name) (a : CtlSt),
    (hits.foldl (ctlInner c new var) a).2.2.1 = a.2.2.1 + hits.length := by
  intro hits
  induction hits with
  | nil => intro a; exact (Int.add_zero _).symm
  | cons s ss ih =>
    intro a
    rw [List.foldl_cons, ih, List.length_cons, Int.natCast_succ, Int.add_comm (ss.length : Int) 1,
      ← Int.add_assoc]
    rfl

/-- **Value ↦ original target.** After the fold over the arcs `hits` starting at value `v0`, the
    table maps `v0 + k` to the `k`-th arc's original target, and keeps every entry below `v0`. -/
theorem ctl_table (c new var : Name) : ∀ (hits : List Name) (a : CtlSt),
    (∀ k (hk : k < hits.length),
      tget (hits.foldl (ctlInner c new var) a).2.2.2.1 (a.2.2.1 + k) = some hits[k]) ∧
    (∀ j, j < a.2.2.1 → tget (hits.foldl (ctlInner c new var) a).2.2.2.1 j = tget a.2.2.2.1 j) := by
  intro hits
  induction hits with
  | nil => intro a; exact ⟨fun k hk => absurd hk (Nat.not_lt_zero k), fun j _ => rfl⟩
  | cons s ss ih =>
    intro a
    -- the state after the first arc: value `a.2.2.1 + 1`, table `tblSet a.2.2.2.1 a.2.2.1 s`
    obtain ⟨i1, i2⟩ := ih (ctlInner c new var a s)
    have i2' : ∀ j, j < a.2.2.1 + 1 →
        tget (ss.foldl (ctlInner c new var) (ctlInner c new var a s)).2.2.2.1 j =
          tget (tblSet a.2.2.2.1 a.2.2.1 s) j := i2
    refine ⟨fun k hk => ?_, fun j hj => ?_⟩
    · cases k with
      | zero =>
        rw [List.foldl_cons, Int.natCast_zero, Int.add_zero, i2' _ (Int.lt_succ _), tget_set_same]
        rfl
      | succ k =>
        rw [List.foldl_cons, Int.natCast_succ, Int.add_comm (k : Int) 1, ← Int.add_assoc]
        exact i1 k (Nat.lt_of_succ_lt_succ hk)
    · rw [List.foldl_cons, i2' j (Int.lt_trans hj (Int.lt_succ _)),
        tget_set_other _ _ _ _ (Int.ne_of_lt hj)]

/-- one arc: its assignment block is found under the fresh name, assigning the head's variable the current value
    (the block added last for a name wins, as in a Python dict) -/
theorem ctl_last_block (c new var : Name) (a : CtlSt) (s : Name) :
    (ctlInner c new var a s).1.getIn? c (a.2.1.newBlockName "synth_asign").1 =
      some (asgBlk c new var (a.2.1.newBlockName "synth_asign").1 a.2.2.1) := by
  simp [ctlInner, getIn?_putIn, asgBlk]

theorem insertCtl_single (st : St) (c new p : Name) (succs : List Name) (blk : Blk)
    (hget : st.H.getIn? c p = some blk) (hreg : blk.isRegion = false) :
    insertCtl st c new [p] succs =
      (let var := (st.ng.newVarName "control").1
       let hits := sortNames (dedup (blk.jt.filter fun t => succs.contains t))
       let r := hits.foldl (ctlInner c new var) (st.H, (st.ng.newVarName "control").2, 0, [], blk.jts)
       do
         let (cur, H1) ← popIn "insert_block_and_control_blocks" r.1 c p
         let cur' ← replaceJts cur r.2.2.2.2
         pure { H := putIn (putIn H1 cur')
                  { cont := c, name := new, kind := .synthHead, jts := succs, var := var, tbl := r.2.2.2.1 },
                ng := r.2.1 }) := by
  have hblk : getIn "insert_block_and_control_blocks" st.H c p = .ok blk := getIn_eq_ok.mpr hget
  unfold insertCtl
  cases st.ng.newVarName "control" with | mk var ng0 =>
  -- the one round of the outer loop, up to the lookup of `p`
  dsimp only [List.foldlM]
  rw [hblk]
  dsimp only [bind, Except.bind]
  -- the inner loop's body is `ctlInnerM` written out
  erw [ctlFoldM_plain c new var blk hreg]
  generalize List.foldl (ctlInner c new _) _ _ = r
  dsimp only [pure, Except.pure]
  cases popIn "insert_block_and_control_blocks" r.1 c p with
  | error e => rfl
  | ok v =>
    dsimp only
    cases replaceJts v.1 r.2.2.2.2 <;> rfl

/-! Non-vacuity: two arcs starting at value 0. -/
example : (["a", "b"].foldl (ctlInner "m" "h" "v") ([], [], 0, [], ["x", "a", "b"])).2.2.2.1 = [(0, "a"), (1, "b")] := by
  decide +kernel

end Scfg.C14
