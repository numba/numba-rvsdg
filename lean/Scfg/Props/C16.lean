import Scfg.Spec.IterSpec
import Scfg.Lemmas.List
/-!
# C16 — iteration and the region-concealing view enumerate exactly the graph

`iterSpecOK` / `viewSpecOK` are evaluated on the names the real iterators yield for every
(sub)graph of every stage output; the theorems unfold what a `true` answer means.
(The model of the iterators, `Scfg/Model/Iter.lean`, is compared with the code order-exactly.)
-/
namespace Scfg.C16
open Scfg.Model Scfg.Spec

theorem sameSet_iff (xs ys : List Name) : sameSet xs ys = true ↔ ∀ x, x ∈ xs ↔ x ∈ ys := by
  simp only [sameSet, Bool.and_eq_true, List.all_eq_true, List.contains_iff_mem]
  constructor
  · rintro ⟨h1, h2⟩ x; exact ⟨h1 x, h2 x⟩
  · intro h; exact ⟨fun x hx => (h x).mp hx, fun x hx => (h x).mpr hx⟩

/-- **Hierarchy iteration.** Every block and region below the container is yielded exactly once
    (no repetition, nothing missing, nothing foreign), and the head comes first. -/
theorem iterSpecOK_sound (H : Hier) (c : Name) (out : List Name) (h : iterSpecOK H c out = true) :
    out.Nodup ∧ (∀ x, x ∈ out ↔ x ∈ below H (H.length + 1) c) ∧
    (∀ hd tl, out = hd :: tl → headRef (H.level c) = some hd) := by
  simp only [iterSpecOK, Bool.and_eq_true] at h
  obtain ⟨⟨h1, h2⟩, h3⟩ := h
  refine ⟨(nodupL_iff _).mp h1, (sameSet_iff _ _).mp h2, ?_⟩
  intro hd tl hout
  subst hout
  cases hr : headRef (H.level c) with
  | none => simp [hr] at h3
  | some h' =>
    simp only [hr, beq_iff_eq] at h3
    rw [h3]

/-- **Concealed view.** Exactly the level's own blocks and regions, each once, the head first,
    and every later item is a (view-)successor of some earlier item. -/
theorem viewSpecOK_sound (H : Hier) (c : Name) (out : List Name) (h : viewSpecOK H c out = true) :
    out.Nodup ∧ (∀ x, x ∈ out ↔ ∃ b ∈ H.level c, b.name = x) ∧
    (∃ hd tl, out = hd :: tl ∧ headRef (H.level c) = some hd) ∧
    ∀ i (hi : i < out.length), 0 < i →
      ∃ p ∈ out.take i, ∃ pb, H.getIn? c p = some pb ∧ out[i] ∈ viewSucc H pb := by
  simp only [viewSpecOK, Bool.and_eq_true] at h
  obtain ⟨⟨⟨h1, h2⟩, h3⟩, h4⟩ := h
  refine ⟨(nodupL_iff _).mp h1, ?_, ?_, ?_⟩
  · intro x
    rw [(sameSet_iff _ _).mp h2 x, List.mem_map]
  · cases out with
    | nil => simp at h3
    | cons hd tl =>
      cases hr : headRef (H.level c) with
      | none => simp [hr] at h3
      | some h' =>
        simp only [hr, beq_iff_eq] at h3
        exact ⟨hd, tl, rfl, by rw [h3]⟩
  · intro i hi hpos
    have := List.all_eq_true.mp h4 i (List.mem_range.mpr hi)
    simp only [Bool.or_eq_true, beq_iff_eq] at this
    rcases this with h0 | hrest
    · omega
    · rw [List.getElem?_eq_getElem hi] at hrest
      simp only [List.any_eq_true] at hrest
      obtain ⟨p, hp, hpb⟩ := hrest
      split at hpb
      · next pb hpbeq =>
        exact ⟨p, hp, pb, hpbeq, by simpa [List.contains_iff_mem] using hpb⟩
      · simp at hpb

/-! Non-vacuity: the enumerations the iterators make of `okH` are accepted, one that leaves the
region out is rejected. -/
def okH : Hier := [
  { cont := "m", name := "0", jts := ["loop_region_0"] },
  { cont := "m", name := "2" },
  { cont := "m", name := "loop_region_0", kind := .region, jts := ["2"], rkind := "loop",
    header := "1", exiting := "1", parent := "m" },
  { cont := "loop_region_0", name := "1", jts := ["1", "2"], bes := ["1"] }]
example : viewSpecOK okH "m" ["0", "loop_region_0", "2"] = true := by decide +kernel
example : iterSpecOK okH "m" ["0", "loop_region_0", "1", "2"] = true := by decide +kernel
example : viewSpecOK okH "m" ["0", "2"] = false := by decide +kernel
example : (match viewIter okH "m" with | .ok r => r | .error _ => []) = ["0", "loop_region_0", "2"] := by
  decide +kernel

end Scfg.C16
