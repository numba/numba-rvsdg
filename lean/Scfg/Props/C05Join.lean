import Scfg.Props.C01Join
/-!
# C05, first stage — closing the graph conserves the original blocks (model, a priori)

`joinReturns_conserves`: for every flat input of original blocks (unique names, fresh return name),
in the hierarchy the model of `join_returns` produces

* every input block is found under its name with every field untouched — payload, kind, successor
  tuple — except that a block without successors may have gained the single edge to the common
  return, and
* everything found under any name is such an input block or the one synthetic return block:
  nothing is duplicated under another name, nothing but a synthetic block is added.
-/
namespace Scfg.C05
open Scfg.Model Scfg.C14 Scfg.C01

theorem joinReturns_conserves (G : Hier) (c : Name) (ng : NameGen) (st' : St) (hG : FlatInput G c)
    (hfresh : (ng.newBlockName "synth_return").1 ∉ G.names)
    (h : joinReturns { H := G, ng := ng } c = .ok st') :
    let ret := (ng.newBlockName "synth_return").1
    (∀ n g, G.get? n = some g →
      st'.H.get? n = some g ∨ (g.jts = [] ∧ st'.H.get? n = some { g with jts := [ret] })) ∧
    (∀ n x, st'.H.get? n = some x →
      (∃ g, G.get? n = some g ∧ (x = g ∨ (g.jts = [] ∧ x = { g with jts := [ret] }))) ∨
      x = retBlk c ret) := by
  intro ret
  rcases joinReturns_flat G c ng st' hG hfresh h with e | ⟨_, look⟩
  · rw [e]
    exact ⟨fun n g hg => Or.inl hg, fun n x hx => Or.inl ⟨x, hx, Or.inl rfl⟩⟩
  · refine ⟨fun n g hg => ?_, fun n x hx => ?_⟩
    · rw [look, if_neg (ne_of_get? hg hfresh), hg, Option.map_some]
      by_cases hj : g.jts = []
      · rw [if_pos hj]; exact Or.inr ⟨hj, rfl⟩
      · rw [if_neg hj]; exact Or.inl rfl
    · rw [look] at hx
      by_cases hn : n = ret
      · rw [if_pos hn] at hx
        exact Or.inr (Option.some.inj hx).symm
      · rw [if_neg hn] at hx
        obtain ⟨g, hg, hgx⟩ := Option.map_eq_some_iff.mp hx
        refine Or.inl ⟨g, hg, ?_⟩
        by_cases hj : g.jts = []
        · rw [if_pos hj] at hgx; exact Or.inr ⟨hj, hgx.symm⟩
        · rw [if_neg hj] at hgx; exact Or.inl hgx.symm

end Scfg.C05
