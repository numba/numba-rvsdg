import Scfg.Props.C14Reroute
import Scfg.Props.C01Join
/-!
# C01 — a whole run of the pipeline as a chain of certified steps

`closed_step_paths`: giving exits the edge to one new halting block (what `join_returns` does) leaves
every path unchanged — for any two hierarchies in the relation `ClosedStep`.

`chain_paths`: if every consecutive pair of a sequence of hierarchies passes the decidable check of
its step kind (`wrappedB`, `splicedB`, `reroutedB`, `closedB`, all proved sound), then from every block
of the first hierarchy an error-free walk by name over the last one shows the trace of the walk over
the first one: every decision sequence, every fuel (`stepOK_sound` says what an accepted step of each kind is).
The harness evaluates `chainOK` on the hierarchies exported before and after every mutating call of a real
pipeline run. `certified_run_paths` starts the chain at the input graph (`flat_paths`).
-/
namespace Scfg.C01
open Scfg.Spec Scfg.C04

/-! ## Closing the graph -/

structure ClosedRel (new : Name) (b b' : Blk) : Prop where
  fields : b' = { b with jts := b'.jts }
  noNew : new ∉ b.jts
  targets : b'.jts = b.jts ∨ (b.jts = [] ∧ b'.jts = [new] ∧ b.kind.isBranching = false)

structure ClosedStep (H H' : Hier) (new : Name) : Prop where
  fresh : H.get? new = none
  newBlk : ∃ nb, H'.get? new = some nb ∧ nb.isRegion = false ∧ nb.isOrig = false ∧
    nb.kind.isBranching = false ∧ nb.jts = []
  rel : ∀ n, n ≠ new → (H.get? n = none ∧ H'.get? n = none) ∨
    ∃ b b', H.get? n = some b ∧ H'.get? n = some b' ∧ ClosedRel new b b'
  hdrFresh : ∀ n b, H.get? n = some b → b.header ≠ new

theorem Ren.refl (b : Blk) : Ren id b b :=
  ⟨rfl, rfl, rfl, rfl, List.map_id _, fun _ => by simp, fun _ _ _ _ _ h => h⟩

theorem ClosedRel.name {new : Name} {b b' : Blk} (h : ClosedRel new b b') : b'.name = b.name := by
  rw [h.fields]

theorem ClosedRel.isOrig {new : Name} {b b' : Blk} (h : ClosedRel new b b') : b'.isOrig = b.isOrig := by
  rw [h.fields]; rfl

theorem ClosedRel.cases {new : Name} {b b' : Blk} (h : ClosedRel new b b') :
    b' = b ∨ (b.jts = [] ∧ b' = { b with jts := [new] } ∧ b.kind.isBranching = false) := by
  rcases h.targets with e | ⟨e1, e2, e3⟩
  · exact .inl (by rw [h.fields, e])
  · exact .inr ⟨e1, by rw [h.fields, e2], e3⟩

theorem closed_resolve (H H' : Hier) (new : Name) (hS : ClosedStep H H' new) {R : Nat} {n : Name}
    (hn : n ≠ new) : (resolve H R n = none ∧ resolve H' R n = none) ∨
    ∃ b b', resolve H R n = some b ∧ resolve H' R n = some b' ∧ ClosedRel new b b' :=
  (resolve_sim hS.rel (fun _ _ h => by rw [h.fields]; exact ⟨rfl, rfl⟩)
    (fun n b hg _ => hS.hdrFresh n b hg) R n hn).imp_right fun ⟨b, b', h1, h2, h, _⟩ => ⟨b, b', h1, h2, h⟩

theorem synthExec_exit {new : Name} {b : Blk} (hj : b.jts = []) (hbr : b.kind.isBranching = false)
    (consume : Bool) (val : Val) : ∃ w, synthExec consume b val = .ok (w, none) ∧
      synthExec consume { b with jts := [new] } val = .ok (w, some 0) :=
  ⟨_, (synthExec_plain hbr).mpr ⟨by rw [hj]; exact Nat.zero_le 1, by rw [hj]; rfl⟩,
    (synthExec_plain (b := { b with jts := [new] }) hbr).mpr ⟨Nat.le_refl 1, rfl⟩⟩

theorem ClosedStep.halt_of_adv {H H' : Hier} {new : Name} (hS : ClosedStep H H' new) {consume : Bool} {R k : Nat}
    {val : Val} {r : WState} (h : Adv H' consume R k new val r) : r = .halt := by
  obtain ⟨nb, hg, hreg, hor, hbr, hj⟩ := hS.newBlk
  cases h with
  | orig hb ho => rw [resolve_block_eq hg hreg hb, hor] at ho; cases ho
  | halt => rfl
  | next hb _ he =>
    rw [resolve_block_eq hg hreg hb, synthExec_plain hbr, hj] at he
    cases he.2

theorem ClosedStep.adv_new {H H' : Hier} {new : Name} (hS : ClosedStep H H' new) (consume : Bool) {R : Nat} (hR : 1 ≤ R)
    (val : Val) {k : Nat} : Adv H' consume R k new val .halt := by
  obtain ⟨nb, hg, hreg, hor, hbr, hj⟩ := hS.newBlk
  obtain ⟨R, rfl⟩ := Nat.exists_eq_add_of_le' hR
  obtain ⟨w, h1, _⟩ := synthExec_exit (new := new) hj hbr consume val
  exact .halt (resolve_block hg hreg R) hor h1

theorem adv_closed {H H' : Hier} {new : Name} (hS : ClosedStep H H' new) {consume : Bool} {R : Nat} :
    ∀ {k n val r}, Adv H' consume R k n val r → n ≠ new → Adv H consume R k n val r := by
  intro k n val r h
  have rel := fun {n x'} (hn : n ≠ new) (hx' : resolve H' R n = some x') =>
    left_of_rel (closed_resolve H H' new hS hn) hx'
  induction h with
  | orig hb ho =>
    intro hn
    obtain ⟨x, hx, hrel⟩ := rel hn hb
    exact hrel.name ▸ .orig hx (hrel.isOrig ▸ ho)
  | halt hb ho he =>
    intro hn
    obtain ⟨x, hx, hrel⟩ := rel hn hb
    rcases hrel.cases with rfl | ⟨hj, rfl, hbr⟩
    · exact .halt hx ho he
    · obtain ⟨w, _, h2⟩ := synthExec_exit (new := new) hj hbr consume _
      rw [h2] at he; cases he
  | next hb ho he ht hd ih =>
    intro hn
    obtain ⟨x, hx, hrel⟩ := rel hn hb
    rcases hrel.cases with rfl | ⟨hj, rfl, hbr⟩
    · exact .next hx ho he ht (ih fun e => hrel.noNew (e ▸ List.mem_of_getElem? ht))
    · -- a synthetic exit that got the edge: one more step over `H'`, to the halting block
      obtain ⟨w, h1, h2⟩ := synthExec_exit (new := new) hj hbr consume _
      rw [h2] at he
      cases he
      cases ht
      exact hS.halt_of_adv hd ▸ .halt hx ho h1

/-- **Closing the graph leaves every path unchanged.** -/
theorem closed_step_paths (H H' : Hier) (new : Name) (hS : ClosedStep H H' new) (consume : Bool) (R F : Nat) :
    ∀ (ds : List Nat) (st : WState), NotAt new st → CleanRun (sysF H' consume R F) st →
      run (sysF H consume R F) st ds = run (sysF H' consume R F) st ds := by
  intro ds st hna hc
  refine walk_sim (Q := fun n va vb => va = vb ∧ n ≠ new) ?_ ds st st
    (stSim_notAt (clean_state hc) hna) hc
  rintro n va _ ⟨rfl, hn⟩
  refine (hS.rel n hn).imp_right fun ⟨b, b', h1, h2, hrel⟩ => ⟨b, b', h1, h2, fun hcl => ?_⟩
  obtain ⟨nb, hg, _, hor, _⟩ := hS.newBlk
  rcases hrel.cases with rfl | ⟨hj, rfl, _⟩
  · refine arityIn_sim rfl (stepF_ren (.refl b') fun t ht hne => ?_) hcl
    obtain ⟨k, hk, hd⟩ := adv_of_advF rfl hne
    rw [id, advF_of_adv (adv_closed hS hd fun e => hrel.noNew (e ▸ ht)) F hk]
    exact stSim_notAt hne (advF_notAt fun b hb => Option.some.inj (hg ▸ hb) ▸ hor)
  · -- an original exit that got the edge to the halting block: still offers no decision
    have h0 : arityIn (stepF H' consume R F { b with jts := [new] } va) { b with jts := [new] } = 0 := by
      by_cases hh : advF H' consume R F new va = .halt
      · simp [arityIn, stepF, hh]
      · have hne := hcl 0 (by simp [arityIn, stepF, hh])
        obtain ⟨_, _, hd⟩ := adv_of_advF rfl hne
        exact absurd (hS.halt_of_adv hd) hh
    rw [h0]
    exact ⟨by simp [arityIn, hj], fun d hd => absurd hd (Nat.not_lt_zero d)⟩

/-! ## Soundness of the decidable check -/

theorem closedRelB_sound {new : Name} {b b' : Blk} (h : closedRelB new b b' = true) : ClosedRel new b b' := by
  simp only [closedRelB, Bool.and_eq_true, beq_iff_eq, Bool.or_eq_true, Bool.not_eq_true',
    List.isEmpty_iff] at h
  obtain ⟨⟨h1, h2⟩, h3⟩ := h
  refine ⟨h1, ?_, ?_⟩
  · intro hm
    have : b.jts.contains new = true := by simpa [List.contains_iff_mem] using hm
    rw [this] at h2; cases h2
  · rcases h3 with e | ⟨⟨e1, e2⟩, e3⟩
    · exact Or.inl e
    · exact Or.inr ⟨e1, e2, e3⟩

theorem closedB_sound (H H' : Hier) (new : Name) (h : closedB H H' new = true) : ClosedStep H H' new := by
  simp only [closedB, Bool.and_eq_true] at h
  obtain ⟨⟨⟨h0, h2⟩, h3⟩, h4⟩ := h
  refine ⟨by simpa using h0, ?_, ?_, ?_⟩
  · cases hg : H'.get? new with
    | none => simp [hg] at h2
    | some nb =>
      simp only [hg, Bool.and_eq_true, Bool.not_eq_true', List.isEmpty_iff] at h2
      obtain ⟨⟨⟨a1, a2⟩, a3⟩, a4⟩ := h2
      exact ⟨nb, rfl, a1, a2, a3, a4⟩
  · exact fun n hn => (rel_of_names_all h3 n hn).imp_right
      fun ⟨b, b', h1, h2, e⟩ => ⟨b, b', h1, h2, closedRelB_sound e⟩
  · exact fun n b hg => by simpa using List.all_eq_true.mp h4 b (get?_mem hg).1

/-! ## Chains of certified steps -/

/-- What an accepted step is, kind by kind: the name it introduces is new, and the two hierarchies stand in the
    relation of its kind. -/
theorem stepOK_sound (H H' : Hier) (t : StepTag) (h : stepOK H H' t = true) :
    match t with
    | .wrapped r hdr => H.get? r = none ∧ Wrapped H H' r hdr
    | .spliced new s => H.get? new = none ∧ Scfg.C14.Spliced H H' new s
    | .rerouted => Scfg.Reroute.Rerouted H H' (fun n => (H.get? n).isNone)
        (fun x => (freshVars H H').contains x) (H'.length + 1)
    | .closed new => ClosedStep H H' new := by
  cases t with
  | wrapped r hdr =>
    simp only [stepOK, Bool.and_eq_true, Option.isNone_iff_eq_none] at h
    exact ⟨h.1, wrappedB_sound H H' r hdr h.2⟩
  | spliced new s =>
    simp only [stepOK, Bool.and_eq_true, Option.isNone_iff_eq_none] at h
    exact ⟨h.1, Scfg.C14.splicedB_sound H H' new s h.2⟩
  | rerouted => exact Scfg.Reroute.reroutedB_sound H H' _ h
  | closed new => exact closedB_sound H H' new h

/-- What a certified step does to a block of `H`: it is still there under its name, with targets renamed or,
    for an exit of a closing step, with the one new edge. -/
theorem step_block (H H' : Hier) (t : StepTag) (h : stepOK H H' t = true) {n : Name} {b : Blk}
    (hn : H.get? n = some b) :
    ∃ b', H'.get? n = some b' ∧ ((∃ u, Ren u b b') ∨ ∃ new, ClosedRel new b b') := by
  have hs : (H.get? n).isSome = true := by rw [hn]; rfl
  have hS := stepOK_sound H H' t h
  cases t with
  | wrapped r hdr =>
    obtain ⟨b', h2, hrel⟩ := right_of_rel (hS.2.rel n (ne_of_get?_none hs hS.1)) hn
    exact ⟨b', h2, .inl ⟨_, hrel.ren⟩⟩
  | spliced new s =>
    obtain ⟨b', h2, hsame⟩ := right_of_rel (hS.2.rel n (ne_of_get?_none hs hS.1)) hn
    exact ⟨b', h2, .inl ⟨_, hsame.ren⟩⟩
  | rerouted =>
    obtain ⟨b', h2, hp⟩ := right_of_rel (hS.rel n (by simp [hn])) hn
    exact ⟨b', h2, .inl ⟨_, hp.same.ren⟩⟩
  | closed new =>
    obtain ⟨b', h2, hrel⟩ := right_of_rel (hS.rel n (ne_of_get?_none hs hS.fresh)) hn
    exact ⟨b', h2, .inr ⟨new, hrel⟩⟩

/-- one certified step -/
theorem step_paths (H H' : Hier) (t : StepTag) (h : stepOK H H' t = true) (n : Name)
    (hn : (H.get? n).isSome = true) :
    (H'.get? n).isSome = true ∧ ∀ (consume : Bool) (R F : Nat) (val : Val),
      CleanRun (sysF H' consume R F) (.at n val) →
      ∀ ds, run (sysF H consume R F) (.at n val) ds = run (sysF H' consume R F) (.at n val) ds := by
  obtain ⟨b, hb⟩ := Option.isSome_iff_exists.mp hn
  obtain ⟨b', hb', _⟩ := step_block H H' t h hb
  refine ⟨Option.isSome_iff_exists.mpr ⟨b', hb'⟩, fun consume R F val hc ds => ?_⟩
  have hS := stepOK_sound H H' t h
  cases t with
  | wrapped r hdr => exact wrapped_paths H H' r hdr hS.2 consume R F ds _ (ne_of_get?_none hn hS.1) hc
  | spliced new s =>
    exact Scfg.C14.spliced_paths H H' new s hS.2 consume R F ds _ (ne_of_get?_none hn hS.1) hc
  | rerouted =>
    exact Scfg.Reroute.rerouted_paths H H' _ _ _ hS consume R F ds _ _
      ⟨rfl, Scfg.Reroute.AgreeOff.refl _ _⟩ (show (H.get? n).isNone = false by rw [hb]; rfl) hc
  | closed new => exact closed_step_paths H H' new hS consume R F ds _ (ne_of_get?_none hn hS.fresh) hc

/-- **A certified run of the pipeline preserves every path.** -/
theorem chain_paths : ∀ (steps : List (StepTag × Hier)) (H : Hier), chainOK H steps = true →
    ∀ (n : Name), (H.get? n).isSome = true → ∀ (consume : Bool) (R F : Nat) (val : Val),
      CleanRun (sysF (chainLast H steps) consume R F) (.at n val) →
      ∀ ds, run (sysF H consume R F) (.at n val) ds =
        run (sysF (chainLast H steps) consume R F) (.at n val) ds := by
  intro steps
  induction steps with
  | nil => intro H _ n _ consume R F val _ ds; rfl
  | cons p rest ih =>
    obtain ⟨t, H'⟩ := p
    intro H h n hn consume R F val hc ds
    simp only [chainOK, Bool.and_eq_true] at h
    simp only [chainLast] at hc ⊢
    obtain ⟨hk, hp⟩ := step_paths H H' t h.1 n hn
    have hrest := ih H' h.2 n hk consume R F val hc
    have hc' : CleanRun (sysF H' consume R F) (.at n val) :=
      clean_of_runs_eq hrest hc
    rw [hp consume R F val hc' ds, hrest ds]

/-! ## From the input graph -/

theorem flatB_sound {G : Hier} (hG : flatB G = true) {n : Name} {g : Blk} (hg : G.get? n = some g) :
    g.isOrig = true ∧ ∀ t ∈ g.jts, ∃ x, G.get? t = some x := by
  have := List.all_eq_true.mp hG g (get?_mem hg).1
  simpa [Option.isSome_iff_exists] using this

/-- on a flat graph of original blocks without dangling targets the walk by name is the walk of the graph -/
theorem flat_paths (G : Hier) (hG : flatB G = true) (consume : Bool) (R F : Nat) (hR : 1 ≤ R) (hF : 1 ≤ F) :
    ∀ (ds : List Nat) (n : Name) (g : Blk) (val : Val), G.get? n = some g →
      run (sysOrig G) (some n) ds = run (sysF G consume R F) (.at n val) ds := by
  obtain ⟨R, rfl⟩ := Nat.exists_eq_add_of_le' hR
  obtain ⟨F, rfl⟩ := Nat.exists_eq_add_of_le' hF
  -- nothing is closed: `closes_paths` with the graph itself as the result (container and return name play no part)
  exact closes_paths G G "" "" consume R F (fun _ _ hg => (flatB_sound hG hg).1) (fun _ _ hg => (flatB_sound hG hg).2)
    fun _ _ h => .inl h

/-- **A certified pipeline run, end to end**; `certified_run_total` (C01Conv) removes `hc`. -/
theorem certified_run_paths (G : Hier) (steps : List (StepTag × Hier)) (hG : flatB G = true)
    (h : chainOK G steps = true) (n : Name) (g : Blk) (hn : G.get? n = some g) (consume : Bool) (val : Val)
    (hc : CleanRun (sysName (chainLast G steps) consume) (.at n val)) (ds : List Nat) :
    run (sysOrig G) (some n) ds = run (sysName (chainLast G steps) consume) (.at n val) ds := by
  rw [sysName_eq_sysF] at hc ⊢
  rw [← chain_paths steps G h n (by simp [hn]) consume _ _ val hc ds]
  exact flat_paths G hG consume _ _ (Nat.le_add_left 1 _) (by unfold walkFuel; omega) ds n g val hn

end Scfg.C01
