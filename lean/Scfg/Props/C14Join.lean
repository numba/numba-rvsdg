import Scfg.Props.C14
/-!
# C14 — whole `insert_block` calls, and closing the graph (`join_returns`), pointwise

For distinct predecessors that are plain blocks (no region, no value table) the model
`insertBlock` answers, and its result is described entry by entry (`insertBlock_plain`): the new
block is added with successors exactly `S`; every predecessor's successor tuple becomes
`newTargets` (i.e. `rewire`, whose arcs `rewire_frame / rewire_rerouted / rewire_new_once /
rewire_mem` describe); every other entry of the hierarchy, at any level, is unchanged.

The model `joinReturns` (compared with `SCFG.join_returns` on every run) is that call on the
blocks of the level without (non-back-edge) successor when there are at least two, with no
successor for the new block `synth_return_block_k` (`joinReturns_eq`); hence, when they are plain,
it answers and (`joinReturns_lookup`)

* the new block is added with no successor,
* every former exit gets the new block appended to its successor tuple (nothing else about it
  changes),
* every other entry of the hierarchy is unchanged;

so exactly one block of the level is left without successor and it is reached from every former
exit; with at most one exit the call is the identity.
-/
namespace Scfg.C14
open Scfg.Model

/-- The pointwise effect of rewriting the blocks of container `c` named in `ps` by `f`. -/
def updTo (f : Blk → Blk) (c : Name) (ps : List Name) (look : Name → Name → Option Blk) :
    Name → Name → Option Blk :=
  fun c' n' => match look c' n' with
    | some b => if c' = c ∧ n' ∈ ps then some (f b) else some b
    | none => none

theorem updTo_putIn {f : Blk → Blk} {c : Name} {ps : List Name} {H : Hier} {nb : Blk}
    (hnb : ¬(nb.cont = c ∧ nb.name ∈ ps)) (c' n' : Name) :
    updTo f c ps (fun a b => (putIn H nb).getIn? a b) c' n' =
      if c' = nb.cont ∧ n' = nb.name then some nb
      else if c' = c ∧ n' ∈ ps then (H.getIn? c' n').map f
      else H.getIn? c' n' := by
  simp only [updTo, getIn?_putIn]
  by_cases hk : c' = nb.cont ∧ n' = nb.name
  · obtain ⟨rfl, rfl⟩ := hk
    simp only [and_self, if_true, if_neg hnb]
  · simp only [hk, if_false]
    cases H.getIn? c' n' with
    | none => simp
    | some b => rfl

/-- A loop that pops each listed block of container `c` and puts an updated block back under the
    same key is, as far as lookups go, the pointwise update; `P` is what one round needs of the
    block it finds. (A name listed twice would be rewritten twice, hence `ps.Nodup`.) -/
theorem foldlM_update (f : Hier → Name → M Hier) (upd : Blk → Blk) (P : Blk → Prop) (c : Name)
    (hkey : ∀ b, (upd b).cont = b.cont ∧ (upd b).name = b.name)
    (hf : ∀ H p b, H.getIn? c p = some b → P b →
      f H p = .ok (putIn (H.filter fun x => !(x.cont == c && x.name == p)) (upd b))) :
    ∀ (ps : List Name) (H : Hier), ps.Nodup → (∀ p ∈ ps, ∃ b, H.getIn? c p = some b ∧ P b) →
      ∃ H', ps.foldlM f H = .ok H' ∧
        ∀ c' n', H'.getIn? c' n' = updTo upd c ps (fun a b => H.getIn? a b) c' n' := by
  intro ps
  induction ps with
  | nil =>
    intro H _ _
    refine ⟨H, rfl, fun c' n' => ?_⟩
    simp only [updTo, List.not_mem_nil, and_false, if_false]
    cases H.getIn? c' n' <;> rfl
  | cons p ps ih =>
    intro H hnd hall
    rw [List.nodup_cons] at hnd
    obtain ⟨b, hb, hP⟩ := hall p (by simp)
    have hbk := (getIn?_mem hb).2
    have hlook : ∀ a m,
        Hier.getIn? (putIn (H.filter fun x => !(x.cont == c && x.name == p)) (upd b)) a m =
          if a = c ∧ m = p then some (upd b) else H.getIn? a m := by
      intro a m
      rw [getIn?_putIn, getIn?_filter, (hkey b).1, (hkey b).2, hbk.1, hbk.2]
      by_cases h : a = c ∧ m = p
      · rw [if_pos h, if_pos h]
      · rw [if_neg h, if_neg h, if_neg h]
    -- the other predecessors are found as before
    obtain ⟨H', hH', hspec⟩ := ih _ hnd.2 fun q hq => by
      have hqp : ¬(c = c ∧ q = p) := fun h => hnd.1 (h.2 ▸ hq)
      rw [hlook, if_neg hqp]
      exact hall q (List.mem_cons_of_mem _ hq)
    refine ⟨H', by rw [List.foldlM_cons, hf H p b hb hP]; exact hH', fun c' n' => ?_⟩
    rw [hspec]
    simp only [updTo, hlook, List.mem_cons]
    by_cases hk : c' = c ∧ n' = p
    · obtain ⟨rfl, rfl⟩ := hk
      simp [hnd.1, hb]
    · have : c' = c ∧ (n' = p ∨ n' ∈ ps) ↔ c' = c ∧ n' ∈ ps :=
        and_congr_right fun h1 => or_iff_right fun e => hk ⟨h1, e⟩
      rw [if_neg hk]
      simp only [this]

theorem insertBlock_plain (H : Hier) (c : Name) (kind : BKind) (new : Name)
    (preds succs : List Name) (hnd : preds.Nodup)
    (hplain : ∀ p ∈ preds, p ≠ new ∧ ∃ b, H.getIn? c p = some b ∧ b.isRegion = false ∧
      b.kind.isBranching = false) :
    ∃ H', insertBlock H c kind new preds succs = .ok H' ∧
      ∀ c' n', H'.getIn? c' n' =
        updTo (fun b => { b with jts := newTargets new succs b }) c preds
          (fun a b => (putIn H { cont := c, name := new, kind := kind, jts := succs }).getIn? a b)
          c' n' := by
  refine foldlM_update _ (fun b => { b with jts := newTargets new succs b })
    (fun b => b.isRegion = false ∧ b.kind.isBranching = false) c
    (fun _ => ⟨rfl, rfl⟩) ?_ preds _ hnd ?_
  · intro H p b hb hP
    exact insertStep_plain new succs (by simp [popIn, hb]) hP.1 hP.2
  · intro p hp
    obtain ⟨hne, b, hb, hP⟩ := hplain p hp
    exact ⟨b, by rw [getIn?_putIn, if_neg fun h => hne h.2]; exact hb, hP⟩

theorem insertBlock_plain_spec (H H' : Hier) (c : Name) (kind : BKind) (new : Name)
    (preds succs : List Name) (hnd : preds.Nodup)
    (hplain : ∀ p ∈ preds, p ≠ new ∧ ∃ b, H.getIn? c p = some b ∧ b.isRegion = false ∧
      b.kind.isBranching = false)
    (h : insertBlock H c kind new preds succs = .ok H') :
    ∀ c' n', H'.getIn? c' n' =
      updTo (fun b => { b with jts := newTargets new succs b }) c preds
        (fun a b => (putIn H { cont := c, name := new, kind := kind, jts := succs }).getIn? a b) c' n' :=
  of_ok (insertBlock_plain H c kind new preds succs hnd hplain) h

/-- the same read by lookups: the new block, the predecessors with their rewritten tuples, everything else as
    it was -/
theorem insertBlock_plain_lookup {H H' : Hier} {c : Name} {kind : BKind} {new : Name} {preds succs : List Name}
    (hnd : preds.Nodup) (hnp : new ∉ preds)
    (hplain : ∀ p ∈ preds, ∃ b, H.getIn? c p = some b ∧ b.isRegion = false ∧ b.kind.isBranching = false)
    (h : insertBlock H c kind new preds succs = .ok H') (c' n' : Name) :
    H'.getIn? c' n' =
      if c' = c ∧ n' = new then some { cont := c, name := new, kind := kind, jts := succs }
      else if c' = c ∧ n' ∈ preds then (H.getIn? c' n').map fun b => { b with jts := newTargets new succs b }
      else H.getIn? c' n' :=
  (insertBlock_plain_spec H H' c kind new preds succs hnd (fun p hp => ⟨fun e => hnp (e ▸ hp), hplain p hp⟩) h
    c' n').trans (updTo_putIn (fun hh => hnp hh.2) c' n')

/-! Non-vacuity: two plain predecessors `a`, `b` with arcs into `S = [x, y]`. -/
def ibDemo : Hier := [{ cont := "m", name := "a", jts := ["x", "q"] }, { cont := "m", name := "b", jts := ["y", "x"] },
  { cont := "m", name := "x" }, { cont := "m", name := "y" }, { cont := "m", name := "q" }]
example : ((insertBlock ibDemo "m" .synthTail "n" ["a", "b"] ["x", "y"]).toOption.map fun H =>
    H.map fun e => (e.name, e.jts)) =
    some [("x", []), ("y", []), ("q", []), ("n", ["x", "y"]), ("a", ["n", "q"]), ("b", ["n"])] := by
  decide +kernel

/-- `updTo` at `fun b => { b with jts := b.jts ++ [new] }` -/
def appendTo (new c : Name) (ps : List Name) (look : Name → Name → Option Blk) :
    Name → Name → Option Blk :=
  fun c' n' => match look c' n' with
    | some b => if c' = c ∧ n' ∈ ps then some { b with jts := b.jts ++ [new] } else some b
    | none => none

/-- the block `join_returns` adds -/
def retBlk (c n : Name) : Blk := { cont := c, name := n, kind := .synthReturn, jts := [] }

/-- names of the blocks without (non-back-edge) successor in container `c` -/
def exitsOf (H : Hier) (c : Name) : List Name := ((H.level c).filter fun b => b.jt.isEmpty).map (·.name)

theorem joinReturns_eq (st : St) (c : Name) :
    joinReturns st c =
      if (exitsOf st.H c).length > 1 then
        (insertBlock st.H c .synthReturn (st.ng.newBlockName "synth_return").1 (exitsOf st.H c) []).map
          fun H => { H := H, ng := (st.ng.newBlockName "synth_return").2 }
      else .ok st := by
  unfold joinReturns exitsOf
  rw [List.length_map]
  dsimp only
  split
  · cases insertBlock _ _ _ _ _ _ <;> rfl
  · rfl

theorem mem_exitsOf {H : Hier} {c m : Name} {b : Blk} (hb : H.getIn? c m = some b)
    (hj : b.jt.isEmpty = true) : m ∈ exitsOf H c :=
  List.mem_map.mpr ⟨b, List.mem_filter.mpr ⟨(getIn?_level hb).1, hj⟩, (getIn?_level hb).2⟩

theorem exitsOf_nodup {H : Hier} (hu : H.names.Nodup) (c : Name) : (exitsOf H c).Nodup :=
  ((List.filter_sublist.trans List.filter_sublist).map _).nodup hu

/-- `join_returns` with plain exits answers; with at least two of them its result is that of the insertion. -/
theorem joinReturns_plain (st : St) (c : Name)
    (hnd : (exitsOf st.H c).Nodup)
    (hplain : ∀ p ∈ exitsOf st.H c, ∃ b, st.H.getIn? c p = some b ∧ b.isRegion = false ∧
      b.kind.isBranching = false)
    (hfresh : ∀ p ∈ exitsOf st.H c, p ≠ (st.ng.newBlockName "synth_return").1) :
    ∃ st', joinReturns st c = .ok st' ∧
      if (exitsOf st.H c).length > 1 then
        ∀ c' n', st'.H.getIn? c' n' =
          appendTo (st.ng.newBlockName "synth_return").1 c (exitsOf st.H c)
            (fun a b => (putIn st.H (retBlk c (st.ng.newBlockName "synth_return").1)).getIn? a b) c' n'
      else st' = st := by
  rw [joinReturns_eq]
  split
  · obtain ⟨H', hH', hspec⟩ := insertBlock_plain st.H c .synthReturn (st.ng.newBlockName "synth_return").1
      (exitsOf st.H c) [] hnd fun p hp => ⟨hfresh p hp, hplain p hp⟩
    rw [hH']
    -- without successors `newTargets new [] b` is `b.jts ++ [new]`, so the `updTo` of `hspec` is `appendTo`
    exact ⟨_, rfl, hspec⟩
  · exact ⟨st, rfl, rfl⟩

theorem joinReturns_lookup (st : St) (c : Name)
    (hnd : (exitsOf st.H c).Nodup)
    (hplain : ∀ p ∈ exitsOf st.H c, ∃ b, st.H.getIn? c p = some b ∧ b.isRegion = false ∧
      b.kind.isBranching = false)
    (hfresh : ∀ p ∈ exitsOf st.H c, p ≠ (st.ng.newBlockName "synth_return").1) :
    ∃ st', joinReturns st c = .ok st' ∧
      ((exitsOf st.H c).length > 1 → ∀ c' n', st'.H.getIn? c' n' =
        if c' = c ∧ n' = (st.ng.newBlockName "synth_return").1 then
          some (retBlk c (st.ng.newBlockName "synth_return").1)
        else if c' = c ∧ n' ∈ exitsOf st.H c then
          (st.H.getIn? c' n').map fun b => { b with jts := b.jts ++ [(st.ng.newBlockName "synth_return").1] }
        else st.H.getIn? c' n') ∧
      (¬(exitsOf st.H c).length > 1 → st' = st) := by
  obtain ⟨st', h, spec⟩ := joinReturns_plain st c hnd hplain hfresh
  refine ⟨st', h, fun hgt c' n' => ?_, fun hle => (if_neg hle).mp spec⟩
  -- `appendTo` is `updTo` at `fun b => { b with jts := b.jts ++ [new] }`
  exact ((if_pos hgt).mp spec c' n').trans (updTo_putIn (fun hk => hfresh _ hk.2 rfl) c' n')

theorem joinReturns_spec (st st' : St) (c : Name)
    (hnd : (exitsOf st.H c).Nodup)
    (hplain : ∀ p ∈ exitsOf st.H c, ∃ b, st.H.getIn? c p = some b ∧ b.isRegion = false ∧
      b.kind.isBranching = false)
    (hfresh : ∀ p ∈ exitsOf st.H c, p ≠ (st.ng.newBlockName "synth_return").1)
    (h : joinReturns st c = .ok st') :
    if (exitsOf st.H c).length > 1 then
      ∀ c' n', st'.H.getIn? c' n' =
        appendTo (st.ng.newBlockName "synth_return").1 c (exitsOf st.H c)
          (fun a b => (putIn st.H (retBlk c (st.ng.newBlockName "synth_return").1)).getIn? a b) c' n'
    else st' = st :=
  of_ok (joinReturns_plain st c hnd hplain hfresh) h

/-- **Closing the graph leaves exactly one exit, reached from every former exit**; with at most one
    exit nothing changes. (`hbes`: the fresh name is not a declared back edge of a former exit.) -/
theorem joinReturns_one_exit (st st' : St) (c : Name)
    (hnd : (exitsOf st.H c).Nodup)
    (hplain : ∀ p ∈ exitsOf st.H c, ∃ b, st.H.getIn? c p = some b ∧ b.isRegion = false ∧
      b.kind.isBranching = false)
    (hfresh : st.H.getIn? c (st.ng.newBlockName "synth_return").1 = none)
    (hbes : ∀ p b, st.H.getIn? c p = some b → (st.ng.newBlockName "synth_return").1 ∉ b.bes)
    (h : joinReturns st c = .ok st') (hgt : (exitsOf st.H c).length > 1) :
    (∀ m b, st'.H.getIn? c m = some b →
      (b.jt.isEmpty = true ↔ m = (st.ng.newBlockName "synth_return").1)) ∧
    (∀ p ∈ exitsOf st.H c, ∃ b, st'.H.getIn? c p = some b ∧
      (st.ng.newBlockName "synth_return").1 ∈ b.jt) := by
  have hfresh' : ∀ p ∈ exitsOf st.H c, p ≠ (st.ng.newBlockName "synth_return").1 := by
    intro p hp e
    obtain ⟨b, hb, _⟩ := hplain p hp
    rw [e, hfresh] at hb
    cases hb
  have look := (of_ok (joinReturns_lookup st c hnd hplain hfresh') h).1 hgt c
  -- a former exit's new successor tuple shows the edge to the return block
  have hjt : ∀ p b, st.H.getIn? c p = some b → (st.ng.newBlockName "synth_return").1 ∈
      Blk.jt { b with jts := b.jts ++ [(st.ng.newBlockName "synth_return").1] } :=
    fun p b hb => mem_jt.mpr ⟨List.mem_append_right _ (List.mem_singleton_self _), hbes p b hb⟩
  constructor
  · intro m b hb
    rw [look] at hb
    by_cases hm : m = (st.ng.newBlockName "synth_return").1
    · rw [if_pos ⟨rfl, hm⟩] at hb
      cases hb
      exact iff_of_true rfl hm
    · rw [if_neg fun h => hm h.2] at hb
      refine iff_of_false (fun hj => ?_) hm
      by_cases hmem : m ∈ exitsOf st.H c
      · rw [if_pos ⟨rfl, hmem⟩] at hb
        obtain ⟨b0, hb0, rfl⟩ := Option.map_eq_some_iff.mp hb
        have := hjt m b0 hb0
        rw [List.isEmpty_iff.mp hj] at this
        cases this
      · rw [if_neg fun h => hmem h.2] at hb
        exact hmem (mem_exitsOf hb hj)
  · intro p hp
    obtain ⟨b0, hb0, _, _⟩ := hplain p hp
    refine ⟨_, ?_, hjt p b0 hb0⟩
    rw [look, if_neg fun hk => hfresh' p hp hk.2, if_pos ⟨rfl, hp⟩, hb0]
    rfl

/-! Non-vacuity: two returning blocks. -/
def jrDemo : St := { H := [{ cont := "m", name := "0", jts := ["1", "2"] }, { cont := "m", name := "1" },
                           { cont := "m", name := "2" }], ng := [] }

example : ((joinReturns jrDemo "m").toOption.map fun s => s.H.map fun b => (b.name, b.jts)) =
    some [("0", ["1", "2"]), ("synth_return_block_0", []), ("1", ["synth_return_block_0"]),
          ("2", ["synth_return_block_0"])] := by decide +kernel
example : (exitsOf jrDemo.H "m").length > 1 ∧ (exitsOf jrDemo.H "m").Nodup := by decide +kernel

end Scfg.C14
