import Scfg.Lemmas.List
/-!
# C17 — rendering draws exactly the graph

`drawingOK H top d` is evaluated on the drawing parsed from the real DOT source of every
rendered graph. `drawingOK_sound` says what `true` means: nodes, clusters (with nesting) and
edges (with dashed flag and header-resolved destinations) are, as multisets, exactly those
`specDrawing` prescribes; `spec_*` lemmas spell `specDrawing` out.
-/
namespace Scfg.C17
open Scfg.Spec

/-- A drawing that passes has, element for element of what was drawn, the multiplicity the
    specification prescribes, and as many elements in total: nothing missing, nothing extra,
    nothing drawn twice. -/
theorem drawingOK_sound (H : Hier) (top : Name) (d : Drawing) (h : drawingOK H top d = true) :
    (d.nodes.length = (specDrawing H top).nodes.length ∧
      ∀ x ∈ d.nodes, d.nodes.count x = (specDrawing H top).nodes.count x) ∧
    (d.clusters.length = (specDrawing H top).clusters.length ∧
      ∀ x ∈ d.clusters, d.clusters.count x = (specDrawing H top).clusters.count x) ∧
    (d.edges.length = (specDrawing H top).edges.length ∧
      ∀ x ∈ d.edges, d.edges.count x = (specDrawing H top).edges.count x) := by
  simp only [drawingOK, Bool.and_eq_true, sameMultiset_iff] at h
  exact ⟨h.1.1, h.1.2, h.2⟩

/-- The nodes of the specification: every non-region block, in the cluster of the region that contains it
    (membership; how often each is drawn is `drawingOK_sound`'s part). -/
theorem spec_nodes (H : Hier) (top : Name) (n c : Name) :
    (n, c) ∈ (specDrawing H top).nodes ↔
      ∃ b ∈ H, b.isRegion = false ∧ b.name = n ∧ c = (if b.cont == top then "" else b.cont) := by
  simp only [specDrawing, List.mem_map, List.mem_filter, Bool.not_eq_true', Prod.mk.injEq, and_assoc,
    @eq_comm _ c]

/-- The clusters of the specification: every region, nested as the regions are (membership). -/
theorem spec_clusters (H : Hier) (top : Name) (n c : Name) :
    (n, c) ∈ (specDrawing H top).clusters ↔
      ∃ b ∈ H, b.isRegion = true ∧ b.name = n ∧ c = (if b.cont == top then "" else b.cont) := by
  simp only [specDrawing, List.mem_map, List.mem_filter, Prod.mk.injEq, and_assoc, @eq_comm _ c]

/-! Non-vacuity. -/
def okH : Hier := [
  { cont := "m", name := "0", jts := ["loop_region_0"] },
  { cont := "m", name := "2" },
  { cont := "m", name := "loop_region_0", kind := .region, jts := ["2"], rkind := "loop",
    header := "1", exiting := "1", parent := "m" },
  { cont := "loop_region_0", name := "1", jts := ["1", "2"], bes := ["1"] }]
example : drawingOK okH "m" (Drawing.mk [("0", ""), ("2", ""), ("1", "loop_region_0")]
    [("loop_region_0", "")] [("0", "1", false), ("1", "2", false), ("1", "1", true)]) = true := by decide +kernel
example : drawingOK okH "m" (Drawing.mk [("0", ""), ("2", ""), ("1", "loop_region_0")]
    [("loop_region_0", "")] [("0", "1", false), ("1", "2", false)]) = false := by decide +kernel

end Scfg.C17
