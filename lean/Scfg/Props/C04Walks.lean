import Scfg.Props.C03
import Scfg.Props.C04
import Scfg.Lemmas.Walk
/-!
# C04, last sentence — "walking by block-level targets and walking region by region visit the
same things"

`walks_coincide`: for **every** hierarchy that is self-consistent (`WF`, the six clauses of C04)
and whose back edges belong to loop latches (`s2`, C03), whenever the walk region by region
(declared header / exiting block / region targets, `sysRegion`) runs without a lookup error, the
walk by name (`sysName`) shows exactly the same trace under every decision sequence of any length.
The proof is a-priori (no enumeration): a region-level continuation, going up through exiting
blocks and down through headers, ends at the very block the name resolves to.
-/
namespace Scfg.C04

/-- **Entering by declared headers = resolving the name.** -/
theorem enter_resolve (H : Hier) (hu : H.names.Nodup) : ∀ f c n b,
    enter H f c n = .ok b → resolve H f n = some b := by
  intro f c n
  fun_induction enter H f c n with
  | case1 | case2 => intro b h; cases h
  | case3 f c n x hx hr ih =>
    intro b h
    rw [resolve_region (getIn?_eq_get? hu hx) hr]
    exact ih b h
  | case4 f c n x hx hr =>
    intro b h
    rw [resolve_block (getIn?_eq_get? hu hx) (Bool.not_eq_true _ ▸ hr), Except.ok.inj h]

/-- what W5 gives about the region around the exiting block `cur` -/
theorem region_targets (H : Hier) (hwf : WF H) (cur R : Blk) (hcur : cur ∈ H)
    (hR : H.get? cur.cont = some R) (hreg : R.isRegion = true) (hex : R.exiting = cur.name) :
    R.jt = cur.jt := by
  obtain ⟨hRm, hRn⟩ := get?_mem hR
  obtain ⟨e, he, hj, hb⟩ := hwf.targets R hRm hreg
  rw [hRn, hex, getIn?_self hwf.unique hcur] at he
  cases he
  rw [jt_of_bes_nil hb, hj]

/-- **Leaving along a forward target.** Going up through the exiting blocks (each region's own
    target in the same position) and then down the headers ends where the name resolves to. -/
theorem leave_fwd (H : Hier) (hwf : WF H) : ∀ f cur t b', cur ∈ H →
    leave H f cur t false = .ok b' → resolve H (H.length + 1) t = some b' := by
  intro f cur t
  generalize hbe : false = isBe
  fun_induction leave H f cur t isBe with
  | case2 => -- the target is an entry of `cur`'s level
    intro b' _ h
    exact enter_resolve H hwf.unique _ _ _ _ h
  | case6 | case7 => cases hbe -- the two branches that leave along a back edge
  | case11 f cur t _ _ R hR hreg hex _ pos hpos _ t' ht' ih =>
    -- `cur` is the exiting block of the region `R` around it: on at `R`'s target in the same position
    intro b' hcur h
    rw [Bool.not_eq_true', Bool.not_eq_false] at hreg
    -- W5: the region's own targets are its exiting block's, so it continues at `t` too
    rw [region_targets H hwf cur R hcur hR hreg (by simpa using hex), idxOf_get hpos] at ht'
    cases ht'
    exact ih rfl b' (get?_mem hR).1 h
  | _ => intro b' _ h; cases h

theorem enclosingLoop_loop {H : Hier} {c : Name} {R : Blk} (hg : H.get? c = some R)
    (hk : (R.rkind == "loop") = true) (f : Nat) : enclosingLoop H (f + 1) c = some R := by
  rw [enclosingLoop, hg]
  exact if_pos hk

theorem enclosingLoop_up {H : Hier} {c : Name} {R : Blk} (hg : H.get? c = some R)
    (hk : ¬(R.rkind == "loop") = true) (f : Nat) : enclosingLoop H (f + 1) c = enclosingLoop H f R.cont := by
  rw [enclosingLoop, hg]
  exact if_neg hk

/-- **Leaving along a back edge.** Going up through the exiting blocks to the nearest enclosing
    loop region and re-entering it at its declared header. -/
theorem leave_back (H : Hier) (L : Blk) : ∀ f g cur t b',
    enclosingLoop H f cur.cont = some L → leave H g cur t true = .ok b' →
    enter H (H.length + 1) L.name L.header = .ok b' := by
  intro f g cur t
  generalize hbe : true = isBe
  fun_induction leave H g cur t isBe generalizing f with
  | case2 _ _ _ _ h => subst hbe; cases h
  | case6 g cur t R hR _ _ hk =>
    -- the container is a loop: it is the nearest one
    intro b' hL h
    cases f with
    | zero => cases hL
    | succ f => rw [enclosingLoop_loop hR hk] at hL; cases hL; exact h
  | case7 g cur t R hR _ _ hk _ ih =>
    -- not a loop: on from the container
    intro b' hL h
    cases f with
    | zero => cases hL
    | succ f => rw [enclosingLoop_up hR hk] at hL; exact ih f rfl b' hL h
  | case11 _ _ _ _ _ _ _ _ _ hn => exact absurd hbe.symm hn
  | _ => intro b' _ h; cases h

/-- `s2_sound` read at one declared back edge `t` of `b`. -/
theorem backedge_spec {H : Hier} (hs2 : s2 H = true) {b : Blk} (hb : b ∈ H) {t : Name}
    (hbe : b.bes.contains t = true) :
    b.isRegion = false ∧ ∃ L, enclosingLoop H H.length b.cont = some L ∧
      (∃ e, innermostExiting H (H.length + 1) L = some e ∧ e.name = b.name) ∧
      ∃ x y, resolve H (H.length + 1) t = some x ∧ resolve H (H.length + 1) L.header = some y ∧
        x.name = y.name := by
  have hne : b.bes ≠ [] := by intro e; rw [e] at hbe; cases hbe
  obtain ⟨hleaf, t0, L, hbes, _, hL, he, hxy⟩ := Scfg.C03.s2_sound H hs2 b hb hne
  rw [hbes, List.contains_cons, List.contains_nil, Bool.or_false, beq_iff_eq] at hbe
  exact ⟨hleaf, L, hL, he, hbe ▸ hxy⟩

/-- One region-level continuation of a leaf = one resolution by name. -/
theorem regionStep_resolve (H : Hier) (hwf : WF H) (hs2 : s2 H = true) (b : Blk) (hb : b ∈ H)
    (i : Nat) (t : Name) (b' : Blk) (ht : b.jts[i]? = some t) (h : regionStep H b i = .ok b') :
    resolve H (H.length + 1) t = some b' := by
  simp only [regionStep, ht] at h
  cases hbe : b.bes.contains t with
  | false =>
    rw [hbe] at h
    exact leave_fwd H hwf _ b t b' hb h
  | true =>
    rw [hbe] at h
    obtain ⟨_, L, hL, _, x, y, hx, hy, hxy⟩ := backedge_spec hs2 hb hbe
    -- the walk re-enters the loop at its header, which resolves to the block `t` resolves to
    have hres := enter_resolve H hwf.unique _ _ _ _ (leave_back H L _ _ b t b' hL h)
    rw [hx, resolve_eq_of_name hx hy hxy, ← hres, hy]

theorem regionStep_target (H : Hier) (hwf : WF H) (hs2 : s2 H = true) {b : Blk} (hb : b ∈ H) {i : Nat}
    {b' : Blk} (h : regionStep H b i = .ok b') :
    ∃ t, b.jts[i]? = some t ∧ resolve H (H.length + 1) t = some b' := by
  cases ht : b.jts[i]? with
  | none => simp [regionStep, ht] at h
  | some t => exact ⟨t, rfl, regionStep_resolve H hwf hs2 b hb i t b' ht h⟩

/-- One step of the two runs through synthetic blocks, by name from `n` and region by region from the block `n`
    resolves to: they end alike at once (at an original block, halting, in an error of the block), or both go
    on, with the same valuation, along the target of the same index. -/
theorem advance_succ {H : Hier} {consume : Bool} {n : Name} {b : Blk}
    (hres : resolve H (H.length + 1) n = some b) (f : Nat) (val : Val) :
    advanceName H consume (f + 1) n val = advanceRegion H consume (f + 1) b val ∨
    ∃ val' i,
      advanceName H consume (f + 1) n val = (match b.jts[i]? with
        | none => .err false s!"bad-index {b.name}"
        | some t => advanceName H consume f t val') ∧
      advanceRegion H consume (f + 1) b val = (match regionStep H b i with
        | .error e => .err false e
        | .ok b' => advanceRegion H consume f b' val') := by
  rw [advanceName, advanceRegion]
  simp only [hres]
  by_cases ho : b.isOrig = true
  · exact .inl (by rw [if_pos ho, if_pos ho])
  · rw [if_neg ho, if_neg ho]
    cases hsx : synthExec consume b val with
    | error e => exact .inl rfl
    | ok r =>
      obtain ⟨val', oi⟩ := r
      cases oi with
      | none => exact .inl rfl
      | some i => exact .inr ⟨val', i, rfl, rfl⟩

theorem advance_eq (H : Hier) (hwf : WF H) (hs2 : s2 H = true) (consume : Bool) :
    ∀ f n b val, resolve H (H.length + 1) n = some b →
      (advanceRegion H consume f b val).isErr = false →
      advanceName H consume f n val = advanceRegion H consume f b val := by
  intro f
  induction f with
  | zero => intro n b val _ h; cases h
  | succ f ih =>
    intro n b val hres h
    rcases advance_succ hres f val with e | ⟨val', i, e1, e2⟩
    · exact e
    · rw [e2] at h
      rw [e1, e2]
      cases hr : regionStep H b i with
      | error e => rw [hr] at h; cases h
      | ok b' =>
        obtain ⟨t, ht, hres'⟩ := regionStep_target H hwf hs2 (resolve_mem H _ _ _ hres) hr
        simp only [hr, ht] at h ⊢
        exact ih t b' val' hres' h

theorem step_eq (H : Hier) (hwf : WF H) (hs2 : s2 H = true) (consume : Bool) (b : Blk) (hb : b ∈ H)
    (val : Val) (i : Nat) (h : (stepRegion H consume b val i).isErr = false) :
    stepName H consume b val i = stepRegion H consume b val i := by
  simp only [stepRegion] at h ⊢
  cases hr : regionStep H b i with
  | error e => simp [hr, WState.isErr] at h
  | ok b' =>
    obtain ⟨t, ht, hres⟩ := regionStep_target H hwf hs2 hb hr
    simp only [hr, stepName, ht] at h ⊢
    exact advance_eq H hwf hs2 consume _ t b' val hres h

theorem runs_coincide (H : Hier) (hwf : WF H) (hs2 : s2 H = true) (consume : Bool) :
    ∀ (ds : List Nat) (s : WState), CleanRun (sysRegion H consume) s →
      run (sysName H consume) s ds = run (sysRegion H consume) s ds :=
  walk_eq_of_next fun b hb val d => step_eq H hwf hs2 consume b hb val d

/-- **C04's conclusion**: `WF`, `s2` and an error-free region-by-region walk ⇒ the walk by name shows the same trace. -/
theorem walks_coincide (H : Hier) (top : Name) (consume : Bool) (hwf : WF H) (hs2 : s2 H = true)
    (hclean : CleanRun (sysRegion H consume) (initRegion H top consume)) :
    ∀ ds, run (sysName H consume) (initName H top consume) ds
        = run (sysRegion H consume) (initRegion H top consume) ds := by
  intro ds
  have hinit : initName H top consume = initRegion H top consume := by
    have hne : (initRegion H top consume).isErr = false := clean_state hclean
    simp only [initRegion] at hne ⊢
    simp only [initName]
    cases hh : findHeadOf (H.level top) with
    | none => rfl
    | some h =>
      simp only [hh] at hne ⊢
      cases he : enter H (H.length + 1) top h with
      | error e => simp [he, WState.isErr] at hne
      | ok b =>
        simp only [he] at hne ⊢
        exact advance_eq H hwf hs2 consume _ h b [] (enter_resolve H hwf.unique _ _ _ _ he) hne
  rw [hinit]
  exact runs_coincide H hwf hs2 consume ds _ hclean

/-! Non-vacuity: the real output for `0→1, 1→(1,2)` meets `WF` and `s2`. -/
example : wf okH = true ∧ s2 okH = true := by decide +kernel

end Scfg.C04
