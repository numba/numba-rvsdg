import Scfg.Props.C16Nodup
import Scfg.Spec.IterSpec
/-!
# C16 — a decidable sufficient condition for `UniqueNames`

`uniqueB H f` (Scfg/Spec/IterSpec.lean, so that the driver can run it on every real hierarchy) runs
the iterator model below every region of the hierarchy and checks that what it yields there is not a
member of the region's own level and shares nothing with what is yielded below a different region of
the same level. `uniqueB_sound`: if it answers `true`, the hierarchy has `UniqueNames` — so
`iterAll_nodup_of_uniqueB`: the iterator yields nothing twice, at every depth, on every hierarchy that
passes this (computable) test.
-/
namespace Scfg.C16
open Scfg.Model Scfg.Spec

theorem yieldBelow_covers {H : Hier} {f : Nat} {b : Blk} {out : List Name}
    (h : yieldBelow H f b = some out) {x : Name} (hc : Covered H b.name x) : x ∈ out := by
  unfold yieldBelow at h
  split at h
  · next o ho =>
    cases h
    exact (iterAll_exact H f _ _ ho).1 x hc
  · cases h

/-- what the test has checked for a region `b` -/
theorem uniqueB_region {H : Hier} {f : Nat} (h : uniqueB H f = true) {b : Blk} (hb : b ∈ H)
    (hr : b.isRegion = true) :
    (∀ x, Covered H b.name x → H.getIn? b.cont x = none) ∧
    ∀ b2 ∈ H, b2.isRegion = true → b2.cont = b.cont → b2.name ≠ b.name →
      ∀ x, Covered H b.name x → ¬ Covered H b2.name x := by
  have h1 := List.all_eq_true.mp h b hb
  rw [hr] at h1
  cases ho : yieldBelow H f b with
  | none => rw [ho] at h1; cases h1
  | some out =>
    rw [ho] at h1
    simp only [Bool.not_true, Bool.false_or, Bool.and_eq_true, List.all_eq_true,
      Option.isNone_iff_eq_none] at h1
    refine ⟨fun x hx => h1.1 x (yieldBelow_covers ho hx), fun b2 hb2 hr2 hc hn x hx hx2 => ?_⟩
    have h2 := h1.2 b2 hb2
    rw [hr2, hc, beq_self_eq_true, bne_iff_ne.mpr hn] at h2
    cases ho2 : yieldBelow H f b2 with
    | none => rw [ho2] at h2; cases h2
    | some out2 =>
      rw [ho2] at h2
      have := List.all_eq_true.mp h2 x (yieldBelow_covers ho hx)
      rw [List.contains_iff_mem.mpr (yieldBelow_covers ho2 hx2)] at this
      cases this

theorem uniqueB_sound (H : Hier) (f : Nat) (h : uniqueB H f = true) : UniqueNames H := by
  constructor
  · intro c r b x hb hreg hcov
    obtain ⟨hm, hc, _⟩ := getIn?_mem hb
    exact hc ▸ (uniqueB_region h hm hreg).1 x hcov
  · intro c r1 r2 b1 b2 x h1 h2 hr1 hr2 hc1 hc2
    obtain ⟨hm1, hcont1, hn1⟩ := getIn?_mem h1
    obtain ⟨hm2, hcont2, hn2⟩ := getIn?_mem h2
    refine Decidable.byContradiction fun hne => ?_
    exact (uniqueB_region h hm1 hr1).2 b2 hm2 hr2 (hcont2.trans hcont1.symm)
      (fun e => hne (hn1.symm.trans (e.symm.trans hn2))) x hc1 hc2

/-- **duplicate-freedom of `SCFG.__iter__` from a computable test** -/
theorem iterAll_nodup_of_uniqueB (H : Hier) (f : Nat) (h : uniqueB H f = true) (g : Nat) (c : Name)
    (out : List Name) (ho : iterAll H g c = .ok out) :
    out.Nodup ∧ ∀ x, x ∈ out ↔ Covered H c x :=
  iterAll_enumerates H (uniqueB_sound H f h) g c out ho

/-! Non-vacuity: the two-level hierarchy `okH2` of Props/C16Iter.lean passes the test, hence has
unique names in the sense of `UniqueNames`, so `iterAll_enumerates` applies to it. -/
theorem okH2_uniqueB : uniqueB okH2 5 = true := by
  unfold uniqueB yieldBelow
  rw [funext (iterAll_eq_iterS okH2 5)]
  decide +kernel

theorem okH2_unique : UniqueNames okH2 := uniqueB_sound okH2 5 okH2_uniqueB

example (out : List Name) (h : iterAll okH2 6 "m" = .ok out) :
    out.Nodup ∧ ∀ x, x ∈ out ↔ Covered okH2 "m" x := iterAll_enumerates okH2 okH2_unique 6 "m" out h

end Scfg.C16
