import Scfg.Lemmas.Hier
/-!
# C04 — the region hierarchy is self-consistent

`WF H` spells the property out with quantifiers; `wf_iff` shows, clause by clause, that the Boolean `wf`
the harness evaluates on real outputs is exactly that predicate.
-/
namespace Scfg.C04

structure WF (H : Hier) : Prop where
  /-- block and region names are unique across the whole hierarchy -/
  unique : H.names.Nodup
  /-- each region's header and exiting block lie inside it -/
  inside : ∀ r ∈ H, r.isRegion = true →
    (∃ h, H.getIn? r.name r.header = some h) ∧ (∃ e, H.getIn? r.name r.exiting = some e)
  /-- control leaves a region only from its exiting block: any other member names only
      entries of the region's own level -/
  leaves : ∀ b ∈ H, ∀ r, H.get? b.cont = some r → r.exiting ≠ b.name →
    ∀ t ∈ b.jts ++ b.bes, ∃ x, H.getIn? b.cont t = some x
  /-- every jump target and back edge names an entry of the same or an enclosing level -/
  scope : ∀ b ∈ H, ∀ t ∈ b.jts ++ b.bes, inScope H b.cont t = true
  /-- a region's own targets are exactly the non-back-edge targets of its exiting block -/
  targets : ∀ r ∈ H, r.isRegion = true →
    ∃ e, H.getIn? r.name r.exiting = some e ∧ r.jts = e.jt ∧ r.bes = []
  /-- the recorded parent is the containing region -/
  parent : ∀ r ∈ H, r.isRegion = true → r.parent = r.cont

theorem all_regions {H : Hier} {p : Blk → Bool} {P : Blk → Prop} (hp : ∀ r, p r = true ↔ P r) :
    (regions H).all p = true ↔ ∀ r ∈ H, r.isRegion = true → P r := by
  simp only [regions, List.all_eq_true, List.mem_filter, and_imp, hp]

theorem w2_iff (H : Hier) : w2 H = true ↔ ∀ r ∈ H, r.isRegion = true →
    (∃ h, H.getIn? r.name r.header = some h) ∧ (∃ e, H.getIn? r.name r.exiting = some e) :=
  all_regions fun r => by rw [Bool.and_eq_true, Option.isSome_iff_exists, Option.isSome_iff_exists]

theorem w3_iff (H : Hier) : w3 H = true ↔ ∀ b ∈ H, ∀ r, H.get? b.cont = some r → r.exiting ≠ b.name →
    ∀ t ∈ b.jts ++ b.bes, ∃ x, H.getIn? b.cont t = some x := by
  rw [w3, List.all_eq_true]
  refine forall_congr' fun b => forall_congr' fun _ => ?_
  cases H.get? b.cont with
  | none => exact ⟨fun _ _ h => (nomatch h), fun _ => rfl⟩
  | some r =>
    simp only [Bool.or_eq_true, beq_iff_eq, List.all_eq_true, Option.isSome_iff_exists, Option.some.injEq,
      forall_eq']
    exact Decidable.or_iff_not_imp_left

theorem w5_iff (H : Hier) : w5 H = true ↔ ∀ r ∈ H, r.isRegion = true →
    ∃ e, H.getIn? r.name r.exiting = some e ∧ r.jts = e.jt ∧ r.bes = [] :=
  all_regions fun r => by
    cases H.getIn? r.name r.exiting with
    | none => simp
    | some e => simp

theorem wf_iff (H : Hier) : wf H = true ↔ WF H := by
  simp only [wf, Bool.and_eq_true, and_assoc]
  constructor
  · rintro ⟨h1, h2, h3, h4, h5, h6⟩
    exact ⟨(nodupB_iff _).mp h1, (w2_iff H).mp h2, (w3_iff H).mp h3,
      fun b hb t ht => List.all_eq_true.mp (List.all_eq_true.mp h4 b hb) t ht, (w5_iff H).mp h5,
      (all_regions fun r => beq_iff_eq).mp h6⟩
  · rintro ⟨h1, h2, h3, h4, h5, h6⟩
    exact ⟨(nodupB_iff _).mpr h1, (w2_iff H).mpr h2, (w3_iff H).mpr h3,
      List.all_eq_true.mpr fun b hb => List.all_eq_true.mpr (h4 b hb), (w5_iff H).mpr h5,
      (all_regions fun r => beq_iff_eq).mpr h6⟩

/-! Non-vacuity and the pinned-tree witness. `okH` is a real output for `0→1, 1→(1,2)`;
`staleH` is (the relevant part of) the output for the 4-node graph `0→(1,2) 1→(2,3) 2→() 3→(3,2)`
on the pinned tree, where block `3` keeps the stale target `2` (finding O3). -/

def okH : Hier := [
  { cont := "m", name := "0", jts := ["loop_region_0"] },
  { cont := "m", name := "2" },
  { cont := "m", name := "loop_region_0", kind := .region, jts := ["2"], rkind := "loop",
    header := "1", exiting := "1", parent := "m" },
  { cont := "loop_region_0", name := "1", jts := ["1", "2"], bes := ["1"] }]

example : wf okH = true := by decide +kernel

def staleH : Hier := [
  { cont := "m", name := "branch_region_3", kind := .region, jts := ["tail_region_1"],
    rkind := "branch", header := "loop_region_0", exiting := "loop_region_0", parent := "m" },
  { cont := "branch_region_3", name := "loop_region_0", kind := .region,
    jts := ["tail_region_1"], rkind := "loop", header := "3", exiting := "3",
    parent := "branch_region_3" },
  { cont := "loop_region_0", name := "3", jts := ["3", "2"], bes := ["3"] },
  { cont := "m", name := "tail_region_1", kind := .region, jts := ["tail_region_0"],
    rkind := "tail", header := "t", exiting := "t", parent := "m" },
  { cont := "tail_region_1", name := "t", kind := .synthTail, jts := ["tail_region_0"] },
  { cont := "m", name := "tail_region_0", kind := .region, rkind := "tail", header := "2",
    exiting := "2", parent := "m" },
  { cont := "tail_region_0", name := "2" }]

/-- The stale target is out of scope and the loop region's targets differ from its exiting
    block's: `wf` rejects it. -/
example : wf staleH = false := by decide +kernel
example : w4 staleH = false ∧ w5 staleH = false := by decide +kernel

end Scfg.C04
