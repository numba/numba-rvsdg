import Scfg.Props.C16Iter
/-!
# C16 — the FIFO loop of `SCFG.__iter__` never runs out of its own fuel

`go_total`: the loop of the iterator model, started with more fuel than "queue length + jump
targets of the level's members not yet seen", answers whenever the nested iterations below the
level's regions answer. `iterAll_go_fuel_enough`: the fuel the model gives the loop
(`|level| + Σ|_jump_targets| + 4`) is always enough — so an `OutOfFuel` of the loop itself is
impossible: the only ways the model of `__iter__` can fail are `find_head` and the nesting fuel.
-/
namespace Scfg.C16
open Scfg.Model

/-- jump targets of the members of `L` not yet seen -/
def pend (seen : List Name) : List Blk → Nat
  | [] => 0
  | a :: L => (if seen.contains a.name then 0 else a.jt.length) + pend seen L

theorem pend_eq (seen : List Name) : ∀ L, pend seen L = pending Blk.name (fun b => b.jt.length) seen L
  | [] => rfl
  | a :: L => by rw [pend, pend_eq seen L]; rfl

theorem go_total (H : Hier) (f : Nat) (c : Name)
    (hin : ∀ b ∈ H.level c, b.isRegion = true → ∃ o, iterAll H f b.name = .ok o) :
    ∀ (g : Nat) (queue seen out : List Name), queue.length + pend seen (H.level c) < g →
      ∃ r, iterAll.go H f c g queue seen out = .ok r := by
  simp only [go_eq, pend_eq]
  refine fifo_total (fun _ _ h => getIn?_level h) fun b hb => ?_
  cases hreg : b.isRegion with
  | false => exact ⟨b.jt, [], by rw [emitIter, hreg]; rfl, rfl⟩
  | true =>
    obtain ⟨o, ho⟩ := hin b hb hreg
    exact ⟨b.jt, o, by rw [emitIter, hreg, if_pos rfl, ho]; rfl, rfl⟩

theorem pend_le_total (L : List Blk) (n : Nat) :
    n + pend [] L ≤ L.foldl (fun n x => n + x.jts.length) n := by
  have := pending_nil_le Blk.name (fun b => b.jt.length) (u := fun b => b.jts.length) 0
    jt_length_le L n
  rw [pend_eq]
  omega

/-- **the loop's own fuel is always enough**: with `find_head` answering and the nested iterations
    answering, the model of `__iter__` answers. -/
theorem iterAll_go_fuel_enough (H : Hier) (f : Nat) (c hd : Name) (hh : findHead H c = .ok hd)
    (hin : ∀ b ∈ H.level c, b.isRegion = true → ∃ o, iterAll H f b.name = .ok o) :
    ∃ out, iterAll H (f + 1) c = .ok out := by
  rw [iterAll]
  simp only [hh, bind, Except.bind]
  apply go_total H f c hin
  have := pend_le_total (H.level c) 0
  simp only [List.length_singleton]
  omega

/-- non-vacuity: the premises hold on the two-level hierarchy of Props/C16Iter.lean -/
example : ∃ out, iterAll okH2 6 "m" = .ok out := by
  refine iterAll_go_fuel_enough okH2 5 "m" "0" head_m fun b hb hr => ?_
  have : ∀ b ∈ okH2.level "m", b.isRegion = true → b.name = "loop_region_0" := by decide +kernel
  rw [this b hb hr]
  exact ⟨_, okH2_inner⟩

/-- `find_head` answers on container `c` and, to nesting depth `f`, on every region below it -/
def headsOKB (H : Hier) : Nat → Name → Bool
  | 0, _ => false
  | f + 1, c => (match findHead H c with | .ok _ => true | .error _ => false) &&
      (H.level c).all fun b => !b.isRegion || headsOKB H f b.name

/-- **the only ways the model of `__iter__` can fail are `find_head` and the nesting fuel**: if
    `find_head` answers on the container and on every region below it down to depth `f`, the
    iterator model answers — for every hierarchy. -/
theorem iterAll_total : ∀ (H : Hier) (f : Nat) (c : Name), headsOKB H f c = true →
    ∃ out, iterAll H f c = .ok out := by
  intro H f
  induction f with
  | zero => intro c h; simp [headsOKB] at h
  | succ f ih =>
    intro c h
    simp only [headsOKB, Bool.and_eq_true, List.all_eq_true] at h
    obtain ⟨h1, h2⟩ := h
    cases hh : findHead H c with
    | error e => simp [hh] at h1
    | ok hd =>
      refine iterAll_go_fuel_enough H f c hd hh ?_
      intro b hb hr
      have := h2 b hb
      simp only [hr, Bool.not_true, Bool.false_or] at this
      exact ih b.name this

/-- non-vacuity of `iterAll_total` -/
theorem okH2_headsOKB : headsOKB okH2 2 "m" = true := by decide +kernel

end Scfg.C16
