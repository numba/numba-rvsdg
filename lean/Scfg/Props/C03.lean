import Scfg.Lemmas.List
/-!
# C03 — the restructured graph is structured

`structured H top = s1 ∧ s2 ∧ s3 ∧ s4`. The theorems unfold what a `true` answer means:
acyclicity of every level once back edges are ignored (`s1_acyclic`, via verified ranks — the
ranks themselves come from an untrusted peeling), the shape of every branching point
(`s3_sound`) and of every declared back edge (`s2_sound`), and that a cycle of the walk between
leaves takes a declared back edge (`s4_every_cycle_takes_a_backedge`).
-/
namespace Scfg.C03

/-- A non-empty path along in-level, non-back-edge arcs of one level. -/
inductive Path (lvl : List Blk) : Name → Name → Prop
  | single {a : Blk} {t : Name} : a ∈ lvl → t ∈ arcsIn lvl a → Path lvl a.name t
  | cons {a : Blk} {t c : Name} : a ∈ lvl → t ∈ arcsIn lvl a → Path lvl t c → Path lvl a.name c

/-- what a successful rank check (`ranksOK`, `leafRanksOK`) says about one arc -/
theorem rank_lt_of_all {nodes : List Blk} {arcs : Blk → List Name} {rk : Ranks}
    (h : (nodes.all fun a => match rk.get a.name with
      | none => false
      | some ra => (arcs a).all fun t => match rk.get t with
        | none => false
        | some rt => ra < rt) = true) {a : Blk} (ha : a ∈ nodes) {t : Name} (ht : t ∈ arcs a) :
    ∃ ra rt, rk.get a.name = some ra ∧ rk.get t = some rt ∧ ra < rt := by
  have := List.all_eq_true.mp h a ha
  split at this
  · cases this
  · next ra hra =>
    have := List.all_eq_true.mp this t ht
    split at this
    · cases this
    · next rt hrt => exact ⟨ra, rt, hra, hrt, by simpa using this⟩

theorem rank_lt_trans {rk : Ranks} {a t c : Name}
    (h1 : ∃ ra rt, rk.get a = some ra ∧ rk.get t = some rt ∧ ra < rt)
    (h2 : ∃ rt rc, rk.get t = some rt ∧ rk.get c = some rc ∧ rt < rc) :
    ∃ ra rc, rk.get a = some ra ∧ rk.get c = some rc ∧ ra < rc := by
  obtain ⟨ra, rt, hra, hrt, h1⟩ := h1
  obtain ⟨rt', rc, hrt', hrc, h2⟩ := h2
  cases hrt.symm.trans hrt'
  exact ⟨ra, rc, hra, hrc, Nat.lt_trans h1 h2⟩

theorem rank_irrefl {rk : Ranks} {n : Name} : ¬ ∃ ra rc, rk.get n = some ra ∧ rk.get n = some rc ∧ ra < rc := by
  rintro ⟨ra, rc, h1, h2, hlt⟩
  cases h1.symm.trans h2
  exact Nat.lt_irrefl _ hlt

theorem path_rank_lt (lvl : List Blk) (rk : Ranks) (h : ranksOK lvl rk = true)
    {a c : Name} (p : Path lvl a c) :
    ∃ ra rc, rk.get a = some ra ∧ rk.get c = some rc ∧ ra < rc := by
  induction p with
  | single ha ht => exact rank_lt_of_all h ha ht
  | cons ha ht _ ih => exact rank_lt_trans (rank_lt_of_all h ha ht) ih

theorem ranks_acyclic (lvl : List Blk) (rk : Ranks) (h : ranksOK lvl rk = true) (n : Name) :
    ¬ Path lvl n n :=
  fun p => rank_irrefl (path_rank_lt lvl rk h p)

/-- **S1.** At every nesting level the blocks and regions form an acyclic graph once declared
    back edges are ignored. -/
theorem s1_acyclic (H : Hier) (top : Name) (h : s1 H top = true) :
    ∀ c ∈ containers H top, ∀ n, ¬ Path (H.level c) n n := by
  intro c hc n
  exact ranks_acyclic _ _ (List.all_eq_true.mp h c hc) n

/-- **S3.** Ignoring back edges, any block with more than one successor is the exiting block of
    a `head` region; that region's successors are pairwise distinct, and each of them is a
    `branch` region of the same level with exactly one continuation — the same for all of
    them — which is a `tail` region of that level. -/
theorem s3_sound (H : Hier) (h : s3 H = true) :
    ∀ b ∈ H, b.isRegion = false → 1 < b.jt.length →
      ∃ hd, H.get? b.cont = some hd ∧ hd.isRegion = true ∧ hd.rkind = "head" ∧
        hd.exiting = b.name ∧ hd.jts.Nodup ∧
        ∃ tl, ∃ tlb, H.getIn? hd.cont tl = some tlb ∧ tlb.isRegion = true ∧ tlb.rkind = "tail" ∧
          ∀ t ∈ hd.jts, ∃ r, H.getIn? hd.cont t = some r ∧ r.isRegion = true ∧
            r.rkind = "branch" ∧ r.jts = [tl] := by
  intro b hb hleaf hlen
  have hmem : b ∈ leaves H := List.mem_filter.mpr ⟨hb, by simp [hleaf]⟩
  have := List.all_eq_true.mp h b hmem
  simp only [Bool.or_eq_true, decide_eq_true_eq] at this
  rcases this with hle | hrest
  · omega
  · split at hrest
    · simp at hrest
    · next hd hhd =>
      simp only [Bool.and_eq_true, beq_iff_eq] at hrest
      obtain ⟨⟨⟨⟨hreg, hkind⟩, hex⟩, hnd⟩, hm⟩ := hrest
      refine ⟨hd, hhd, hreg, hkind, hex, (nodupB_iff hd.jts).mp hnd, ?_⟩
      split at hm
      · simp at hm
      · next r0 rest hmap =>
        simp only [Bool.and_eq_true] at hm
        obtain ⟨hall, htail⟩ := hm
        split at htail
        · next tl htl =>
          split at htail
          · next tlb htlb =>
            simp only [Bool.and_eq_true, beq_iff_eq] at htail
            refine ⟨tl, tlb, htlb, htail.1, htail.2, ?_⟩
            intro t ht
            have hin : H.getIn? hd.cont t ∈ hd.jts.map (fun t => H.getIn? hd.cont t) :=
              List.mem_map.mpr ⟨t, ht, rfl⟩
            rw [hmap] at hin
            have := List.all_eq_true.mp hall _ hin
            split at this
            · next r hr =>
              simp only [Bool.and_eq_true, beq_iff_eq] at this
              obtain ⟨⟨⟨h1, h2⟩, _⟩, h4⟩ := this
              exact ⟨r, hr, h1, h2, by rw [h4, htl]⟩
            · simp at this
          · simp at htail
        · simp at htail
      · simp at hm

/-- **S2.** A block that declares a back edge is a leaf, declares exactly one, which is one of
    its own targets; it is the innermost exiting block of its nearest enclosing loop region,
    and the back edge leads to the very block the loop's declared header leads to. -/
theorem s2_sound (H : Hier) (h : s2 H = true) :
    ∀ b ∈ H, b.bes ≠ [] →
      b.isRegion = false ∧
      ∃ t L, b.bes = [t] ∧ t ∈ b.jts ∧ enclosingLoop H H.length b.cont = some L ∧
        (∃ e, innermostExiting H (H.length + 1) L = some e ∧ e.name = b.name) ∧
        (∃ x y, resolve H (H.length + 1) t = some x ∧
          resolve H (H.length + 1) L.header = some y ∧ x.name = y.name) := by
  intro b hb hne
  simp only [s2, Bool.and_eq_true] at h
  have := List.all_eq_true.mp h.1 b hb
  simp only [Bool.or_eq_true, List.isEmpty_iff, Bool.and_eq_true, Bool.not_eq_true'] at this
  rcases this with h0 | ⟨hleaf, hrest⟩
  · exact absurd h0 hne
  · refine ⟨hleaf, ?_⟩
    split at hrest
    · next t L hbes hL =>
      simp only [Bool.and_eq_true] at hrest
      obtain ⟨⟨hc, hie⟩, hres⟩ := hrest
      refine ⟨t, L, hbes, by simpa [List.contains_iff_mem] using hc, hL, ?_, ?_⟩
      · split at hie
        · next e he => exact ⟨e, he, by simpa using hie⟩
        · simp at hie
      · split at hres
        · next x y hx hy => exact ⟨x, y, hx, hy, by simpa using hres⟩
        · simp at hres
    · simp at hrest

/-- **S2, second half.** Every loop region has an innermost exiting block and it declares
    exactly one back edge (the region's single latch). -/
theorem s2_loop_has_latch (H : Hier) (h : s2 H = true) :
    ∀ L ∈ H, L.isRegion = true → L.rkind = "loop" →
      ∃ e, innermostExiting H (H.length + 1) L = some e ∧ e.bes.length = 1 := by
  intro L hL hreg hk
  simp only [s2, Bool.and_eq_true] at h
  have := List.all_eq_true.mp h.2 L (List.mem_filter.mpr ⟨hL, hreg⟩)
  simp only [hk, bne_self_eq_false, Bool.false_or] at this
  split at this
  · next e he => exact ⟨e, he, by simpa using this⟩
  · simp at this

/-- A non-empty walk by name between leaf blocks that never takes a declared back edge: each step
    goes from a leaf to the leaf one of its non-back-edge targets leads to (through region headers). -/
inductive LeafWalk (H : Hier) : Name → Name → Prop
  | single {a : Blk} {t : Name} : a ∈ leaves H → t ∈ leafArcs H a → LeafWalk H a.name t
  | cons {a : Blk} {t c : Name} : a ∈ leaves H → t ∈ leafArcs H a → LeafWalk H t c → LeafWalk H a.name c

theorem leafWalk_rank_lt (H : Hier) (rk : Ranks) (h : leafRanksOK H rk = true)
    {a c : Name} (p : LeafWalk H a c) :
    ∃ ra rc, rk.get a = some ra ∧ rk.get c = some rc ∧ ra < rc := by
  induction p with
  | single ha ht => exact rank_lt_of_all h ha ht
  | cons ha ht _ ih => exact rank_lt_trans (rank_lt_of_all h ha ht) ih

/-- **S4.** Across the whole hierarchy no walk by name between leaf blocks returns to where it
    started without taking a declared back edge: every cycle of the restructured graph — and with
    C01 every cycle of the input — passes a declared back edge, which by `s2_sound` runs from the
    single latch of a loop region to that region's header. -/
theorem s4_every_cycle_takes_a_backedge (H : Hier) (h : s4 H = true) (n : Name) : ¬ LeafWalk H n n :=
  fun p => rank_irrefl (leafWalk_rank_lt H _ h p)

/-! Non-vacuity: the real output for `0→1, 1→(1,2)` is structured; the un-restructured loop is not
(`s1` fails: the level has a cycle). -/
def okH : Hier := [
  { cont := "m", name := "0", jts := ["loop_region_0"] },
  { cont := "m", name := "2" },
  { cont := "m", name := "loop_region_0", kind := .region, jts := ["2"], rkind := "loop",
    header := "1", exiting := "1", parent := "m" },
  { cont := "loop_region_0", name := "1", jts := ["1", "2"], bes := ["1"] }]
example : structured okH "m" = true := by decide +kernel

def rawG : Hier := [
  { cont := "m", name := "0", jts := ["1"] },
  { cont := "m", name := "1", jts := ["1", "2"] },
  { cont := "m", name := "2" }]
example : s1 rawG "m" = false := by decide +kernel
example : s3 rawG = false := by decide +kernel

end Scfg.C03
