import Scfg.Props.C18
/-!
# C18 — a generated name never equals a name already present (the reservation scan, a priori)

`NameGenerator.reserve` parses a name with two regular expressions and advances the counter of its
kind past its index; `SCFG.__post_init__` reserves every block name and control variable of the
graph it is given (also when the graph was written out and read back, which builds new `SCFG`
objects). For the model (`Scfg/Model/Reserve.lean`):

* `parse_render_block/region/var` — parsing a name the generator can hand out returns exactly its
  kind and index (for every non-empty kind and every index);
* `reserve_past` / `reserve_mono` — after `reserve(name)` the kind's counter is past that index,
  and no counter ever decreases;
* `reserved_never_generated` — a reserved name is never handed out afterwards, whatever is requested;
* `post_init_never_clobbers` — after the reservation scan over a level, **no** name handed out
  later, for any request sequence over a good prefix table, equals the name of a block of that level.
-/
namespace Scfg.C18
open Scfg.Model

theorem stripPrefix_append (p rest : List Char) : stripPrefix p (p ++ rest) = some rest := by
  induction p with
  | nil => rfl
  | cons c cs ih => simp [stripPrefix, ih]

theorem takeDigitsRev_digits (i : Nat) (rest : List Char) (hr : rest.takeWhile Char.isDigit = []) :
    takeDigitsRev ((Nat.toDigits 10 i).reverse ++ rest) = some (Nat.toDigits 10 i, rest) := by
  have hd : ∀ x ∈ (Nat.toDigits 10 i).reverse, x.isDigit = true := fun x hx =>
    isDigit_toDigits i x (List.mem_reverse.mp hx)
  unfold takeDigitsRev
  rw [List.takeWhile_append_of_pos hd, hr, List.append_nil]
  simp [Nat.toDigits_ne_nil]

theorem lit_block : "_block_".toList = blockSepRev.reverse := String.toList_ofList
theorem lit_region : "_region_".toList = regionSepRev.reverse := String.toList_ofList
theorem lit_var : "_var_".toList = varSepRev.reverse := String.toList_ofList
theorem lit_scfg : "__scfg_".toList = scfgPrefix := String.toList_ofList
theorem lit_dunder : "__".toList = dunder := String.toList_ofList

theorem parse_render_block (k : String) (i : Nat) (hk : k.toList ≠ []) :
    parseBlockName (renderL (Ns.block, k) i) = some (k.toList, i) := by
  have hrev : (renderL (Ns.block, k) i).reverse =
      (Nat.toDigits 10 i).reverse ++ (blockSepRev ++ k.toList.reverse) := by
    unfold renderL pre suf
    rw [lit_block]
    simp only [List.reverse_append, List.reverse_reverse, List.reverse_nil, List.nil_append, List.append_assoc]
  unfold parseBlockName
  rw [hrev, takeDigitsRev_digits i _ rfl]
  simp only [stripPrefix_append]
  simp [hk, Nat.ofDigitChars_toDigits]

theorem parse_render_region (k : String) (i : Nat) (hk : k.toList ≠ []) :
    parseBlockName (renderL (Ns.region, k) i) = some (k.toList, i) := by
  have hrev : (renderL (Ns.region, k) i).reverse =
      (Nat.toDigits 10 i).reverse ++ (regionSepRev ++ k.toList.reverse) := by
    unfold renderL pre suf
    rw [lit_region]
    simp only [List.reverse_append, List.reverse_reverse, List.reverse_nil, List.nil_append, List.append_assoc]
  have hs0 : stripPrefix blockSepRev (regionSepRev ++ k.toList.reverse) = none := rfl
  unfold parseBlockName
  rw [hrev, takeDigitsRev_digits i _ rfl]
  simp only [hs0, stripPrefix_append]
  simp [hk, Nat.ofDigitChars_toDigits]

theorem parse_render_var (k : String) (i : Nat) (hk : k.toList ≠ []) :
    parseVarName (renderL (Ns.var, k) i) = some (k.toList, i) := by
  have hrev : (renderL (Ns.var, k) i).reverse =
      dunder ++ ((Nat.toDigits 10 i).reverse ++ (varSepRev ++ (scfgPrefix ++ k.toList).reverse)) := by
    unfold renderL pre suf
    rw [lit_var, lit_scfg, lit_dunder]
    simp only [List.reverse_append, List.reverse_reverse, List.append_assoc,
      show dunder.reverse = dunder from rfl]
  unfold parseVarName
  rw [hrev, stripPrefix_append]
  dsimp only
  rw [takeDigitsRev_digits i _ rfl]
  simp only [stripPrefix_append, List.reverse_reverse]
  simp [hk, Nat.ofDigitChars_toDigits]

/-- a block / region name ends in a digit, not in `__`: the variable pattern does not match it -/
theorem parseVar_block_none (ns : Ns) (hns : ns ≠ .var) (k : String) (i : Nat) :
    parseVarName (renderL (ns, k) i) = none := by
  have hrev : (renderL (ns, k) i).reverse = (Nat.toDigits 10 i).reverse ++ (pre ns k).reverse := by
    cases ns
    · simp [renderL, suf]
    · simp [renderL, suf]
    · exact absurd rfl hns
  unfold parseVarName
  rw [hrev]
  cases h : (Nat.toDigits 10 i).reverse ++ (pre ns k).reverse with
  | nil => rfl
  | cons c t =>
    have hc : ('_' == c) = false :=
      beq_eq_false_iff_ne.2 fun e => digits_append_ne (by simp [Nat.toDigits_ne_nil])
        (fun d hd => isDigit_toDigits i d (List.mem_reverse.1 hd)) (c := c) (e ▸ by decide) h
    simp [stripPrefix, dunder, hc]

/-- what `reserve` extracts from a name the generator can hand out -/
theorem parse_render (r : Req) (i : Nat) (hk : r.2.toList ≠ []) :
    ((parseVarName (renderL r i)).orElse fun _ => parseBlockName (renderL r i)) = some (r.2.toList, i) := by
  obtain ⟨ns, k⟩ := r
  cases ns
  · rw [parseVar_block_none .block (by decide) k i]; simpa using parse_render_block k i hk
  · rw [parseVar_block_none .region (by decide) k i]; simpa using parse_render_region k i hk
  · rw [parse_render_var k i hk]; rfl

theorem reserve_mono (ng : NameGen) (n : Name) (k : String) : ng.ctrOf k ≤ (ng.reserve n).ctrOf k := by
  fun_cases NameGen.reserve ng n with
  | case2 _ _ _ _ hle => exact ctrOf_le_setCtr (Nat.le_succ_of_le hle) k -- the one case that sets a counter
  | _ => exact Nat.le_refl _

/-- **After `reserve(name)` the counter of the name's kind is past its index.** -/
theorem reserve_past (ng : NameGen) (n : Name) (r : Req) (i : Nat) (hk : r.2.toList ≠ [])
    (hn : n.toList = renderL r i) : i < (ng.reserve n).ctrOf r.2 := by
  unfold NameGen.reserve
  rw [hn, parse_render r i hk]
  simp only [String.ofList_toList]
  split
  · rw [ctrOf_setCtr, if_pos rfl]; exact Nat.lt_succ_self _
  · next h => exact Nat.lt_of_not_le h

/-! ## Any interleaving of reservations and requests (graphs built level by level, as on reload) -/

/-- one step of a generator's life: a reservation or a name request -/
inductive Op
  | reserve (n : Name)
  | request (r : Req)

def applyOp (ng : NameGen) : Op → NameGen
  | .reserve n => ng.reserve n
  | .request r => (Scfg.Model.request ng r).2

theorem applyOp_mono (ng : NameGen) (op : Op) (k : String) : ng.ctrOf k ≤ (applyOp ng op).ctrOf k := by
  cases op with
  | reserve n => exact reserve_mono ng n k
  | request r => rw [applyOp, request_snd]; exact ctr_le_next ng r.2 k

theorem applyOps_mono (ops : List Op) (ng : NameGen) (k : String) :
    ng.ctrOf k ≤ (ops.foldl applyOp ng).ctrOf k :=
  List.foldlRecOn (motive := fun s => ng.ctrOf k ≤ s.ctrOf k) ops applyOp (Nat.le_refl _)
    fun s hs op _ => Nat.le_trans hs (applyOp_mono s op k)

theorem foldl_reserve_eq (ns : List Name) (ng : NameGen) :
    ns.foldl (fun ng n => ng.reserve n) ng = (ns.map Op.reserve).foldl applyOp ng := by
  rw [List.foldl_map]; rfl

theorem foldl_reserve_mono (ns : List Name) : ∀ (ng : NameGen) (k : String),
    ng.ctrOf k ≤ (ns.foldl (fun ng n => ng.reserve n) ng).ctrOf k := by
  intro ng k
  rw [foldl_reserve_eq]
  exact applyOps_mono _ ng k

/-- **Reload and every other history.** Whatever reservations and requests a generator has gone
    through (sub-graphs built one by one, meta regions named in between, …): once a name has been
    reserved, no name handed out afterwards equals it. -/
theorem reserved_never_generated (T : List Req) (hT : prefixesOK T = true)
    (hkinds : ∀ r ∈ T, r.2.toList ≠ []) (ng : NameGen) (before after : List Op) (name : Name)
    (rs : List Req) (hrs : ∀ r ∈ rs, r ∈ T) :
    ∀ n ∈ runNames ((before ++ Op.reserve name :: after).foldl applyOp ng) rs, n ≠ name := by
  intro n hn heq
  obtain ⟨r, hr, i, _, hi⟩ := runNames_ge rs _ n hn
  have hrT := hrs r hr
  have h1 : i < ((before.foldl applyOp ng).reserve name).ctrOf r.2 :=
    reserve_past _ name r i (hkinds r hrT) (heq ▸ hi)
  have h2 : ((before.foldl applyOp ng).reserve name).ctrOf r.2 ≤
      ((before ++ Op.reserve name :: after).foldl applyOp ng).ctrOf r.2 := by
    rw [List.foldl_append, List.foldl_cons]
    exact applyOps_mono after _ _
  exact fresh_vs_existing T hT _ rs hrs r hrT i (Nat.lt_of_lt_of_le h1 h2) n hn hi

/-! ## The reservation scan is such a history -/

/-- the names the scan reserves for one block, in order -/
def blkNames (b : Blk) : List Name :=
  b.name :: if b.kind.isBranching then [b.var]
    else if b.kind == .synthAssign then b.asg.map (·.1) else []

/-- The scan is a fold over those names, whatever is done with each name. -/
theorem foldl_blkNames {σ : Type} (f : σ → Name → σ) (lvl : List Blk) : ∀ s : σ,
    lvl.foldl (fun s b =>
      let s := f s b.name
      if b.kind.isBranching then f s b.var
      else if b.kind == .synthAssign then b.asg.foldl (fun s p => f s p.1) s
      else s) s = (lvl.flatMap blkNames).foldl f s := by
  induction lvl with
  | nil => intro s; rfl
  | cons b bs ih =>
    intro s
    rw [List.foldl_cons, ih, List.flatMap_cons, List.foldl_append]
    congr 1
    unfold blkNames
    rw [List.foldl_cons]
    by_cases h1 : b.kind.isBranching = true
    · rw [if_pos h1, if_pos h1]; rfl
    · rw [if_neg h1, if_neg h1]
      by_cases h2 : (b.kind == .synthAssign) = true
      · rw [if_pos h2, if_pos h2, List.foldl_map]
      · rw [if_neg h2, if_neg h2]; rfl

theorem reserveLevel_eq (ng : NameGen) (lvl : List Blk) :
    reserveLevel ng lvl = (lvl.flatMap blkNames).foldl (fun ng n => ng.reserve n) ng :=
  foldl_blkNames _ lvl ng

/-- After the reservation scan no name handed out later equals a name the scan has seen: a block's
    name, the variable of a branching block, a variable of an assignment block. -/
theorem scan_never_clobbers (T : List Req) (hT : prefixesOK T = true)
    (hkinds : ∀ r ∈ T, r.2.toList ≠ []) (ng : NameGen) (lvl : List Blk) (rs : List Req)
    (hrs : ∀ r ∈ rs, r ∈ T) :
    ∀ n ∈ runNames (reserveLevel ng lvl) rs, ∀ name ∈ lvl.flatMap blkNames, n ≠ name := by
  intro n hn name hmem
  obtain ⟨s, t, hst⟩ := List.append_of_mem hmem
  rw [reserveLevel_eq, foldl_reserve_eq, hst, List.map_append, List.map_cons] at hn
  exact reserved_never_generated T hT hkinds ng _ _ name rs hrs n hn

/-- **A generated name never equals the name of a block already present** (model of the reservation
    scan followed by any request sequence over a good table of non-empty kinds). -/
theorem post_init_never_clobbers (T : List Req) (hT : prefixesOK T = true)
    (hkinds : ∀ r ∈ T, r.2.toList ≠ []) (ng : NameGen) (lvl : List Blk) (rs : List Req)
    (hrs : ∀ r ∈ rs, r ∈ T) :
    ∀ n ∈ runNames (reserveLevel ng lvl) rs, ∀ b ∈ lvl, n ≠ b.name :=
  fun n hn b hb => scan_never_clobbers T hT hkinds ng lvl rs hrs n hn b.name
    (List.mem_flatMap.2 ⟨b, hb, List.mem_cons_self⟩)

/-! Non-vacuity: the library's kinds are non-empty, and reserving `synth_asign_block_3` moves the
counter of `synth_asign` to 4. -/
example : ∀ r ∈ libReqs, r.2.toList ≠ [] :=
  -- comparing with `""` is much cheaper for the kernel than decoding every kind
  fun r hr h => (by decide +kernel : ∀ r ∈ libReqs, r.2 ≠ "") r hr (String.toList_eq_nil_iff.1 h)
example : (NameGen.reserve [] "synth_asign_block_3").ctrOf "synth_asign" = 4 := by decide +kernel
example : (NameGen.reserve [] "__scfg_control_var_7__").ctrOf "control" = 8 := by decide +kernel
example : NameGen.reserve [("a", 5)] "a_region_2" = [("a", 5)] := by decide +kernel

end Scfg.C18
