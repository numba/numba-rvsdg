import Scfg.Lemmas.List
/-!
# C06, "after every renaming" — the model of `SyntheticBranch.replace_jump_targets`, a priori

When a branching synthetic block is re-targeted with a tuple of the same length (the positional
rewrite of the value table), then for **every** block, table and new tuple:

* `replaceJts_pos_values`  — every entry of the new table names one of the new successors,
* `replaceJts_pos_covers`  — every new successor is named by at least one entry,
* `replaceJts_pos_keys`    — every value of the control variable that was a key of the table is
                             still a key (so a variable that was in range stays in range),
* `replaceJts_pos_lookup`  — and the old entry for the `i`-th successor becomes an entry for the
                             `i`-th new successor,

provided the old table was good (`tableOK`: entries name successors, successors are named), its
keys are distinct (it is a Python `dict`) and the old successors are distinct (closed CFGs, DESIGN.md §9).

The value table is an insertion-ordered dict (`dictSet`, Scfg/Lemmas/List.lean).
-/
namespace Scfg.C06
open Scfg.Model

/-- `dict.get` on an insertion-ordered table -/
def tget (t : List (Int × Name)) (k : Int) : Option Name := (t.find? (·.1 == k)).map (·.2)

theorem tget_tblSet (t : List (Int × Name)) (k k' : Int) (v : Name) :
    tget (tblSet t k v) k' = if k' = k then some v else tget t k' := by
  unfold tget
  rw [show tblSet t k v = dictSet (·.1 == k) (k, v) t from rfl, find?_dictSet_key]
  split <;> rfl

theorem tget_set_same (t : List (Int × Name)) (k : Int) (v : Name) : tget (tblSet t k v) k = some v := by
  rw [tget_tblSet, if_pos rfl]

theorem tget_set_other (t : List (Int × Name)) (k k' : Int) (v : Name) (hne : k' ≠ k) :
    tget (tblSet t k v) k' = tget t k' := by
  rw [tget_tblSet, if_neg hne]

theorem tget_some_mem {t : List (Int × Name)} {k : Int} {v : Name} (h : tget t k = some v) : (k, v) ∈ t := by
  obtain ⟨p, hp, rfl⟩ := Option.map_eq_some_iff.mp h
  exact (find?_beq_some hp).2 ▸ (find?_beq_some hp).1

theorem tget_tblCopy (old : List (Int × Name)) (target v : Name) (k : Int) :
    ∀ acc, tget (tblCopy old target v acc) k = if (k, target) ∈ old then some v else tget acc k := by
  unfold tblCopy
  induction old with
  | nil => intro acc; simp
  | cons p ps ih =>
    intro acc
    obtain ⟨a, o⟩ := p
    rw [List.foldl_cons, ih]
    by_cases hps : (k, target) ∈ ps
    · simp [hps]
    · -- no later entry for `k ↦ target`: the head entry decides
      by_cases ht : o = target
      · subst ht; simp [hps, tget_tblSet]
      · simp [hps, ht, Ne.symm ht]

/-- the positional rewrite of the table -/
def posTbl (old : List (Int × Name)) (pairs : List (Name × Name)) (acc : List (Int × Name)) :
    List (Int × Name) :=
  pairs.foldl (fun acc p => tblCopy old p.1 p.2 acc) acc

def KeysNodup (old : List (Int × Name)) : Prop := ∀ p ∈ old, ∀ q ∈ old, p.1 = q.1 → p = q

/-- A later pair overwrites what an earlier one wrote: the last pair whose old successor had an entry for
    the key decides. -/
theorem tget_posTbl (old : List (Int × Name)) (k : Int) : ∀ pairs acc,
    tget (posTbl old pairs acc) k =
      match pairs.reverse.find? (fun pr => (k, pr.1) ∈ old) with
      | some pr => some pr.2
      | none => tget acc k := by
  intro pairs
  induction pairs with
  | nil => intro acc; rfl
  | cons pr rest ih =>
    intro acc
    rw [posTbl, List.foldl_cons, ← posTbl, ih, List.reverse_cons, List.find?_append]
    cases rest.reverse.find? (fun pr' => (k, pr'.1) ∈ old) with
    | some x => rfl
    | none =>
      rw [Option.none_or, List.find?_singleton, tget_tblCopy]
      by_cases hm : (k, pr.1) ∈ old
      · rw [if_pos hm, if_pos (decide_eq_true hm)]
      · rw [if_neg hm, if_neg (by rwa [decide_eq_true_eq])]

theorem replaceJts_pos_eq (b : Blk) (new : List Name) (hb : b.kind.isBranching = true)
    (hlen : new.length = b.jts.length) :
    replaceJts b new = .ok { b with jts := new, tbl := posTbl b.tbl (b.jts.zip new) [] } := by
  simp [replaceJts, hb, hlen, posTbl]

theorem replaceJts_pos_values (b : Blk) (new : List Name) :
    ∀ q ∈ posTbl b.tbl (b.jts.zip new) [], q.2 ∈ new := by
  -- invariant of both loops: every entry carries one of the new successors
  refine List.foldlRecOn (motive := fun t : List (Int × Name) => ∀ q ∈ t, q.2 ∈ new) _ _
    (fun _ h => absurd h List.not_mem_nil) fun t ht pr hpr => ?_
  refine List.foldlRecOn (motive := fun t : List (Int × Name) => ∀ q ∈ t, q.2 ∈ new) _ _ ht
    fun t ht p _ => ?_
  split
  · intro q hq
    rcases mem_dictSet hq with h | rfl
    · exact ht q h
    · exact (List.of_mem_zip hpr).2
  · exact ht

theorem replaceJts_pos_lookup (b : Blk) (new : List Name) (hk : KeysNodup b.tbl)
    (hnd : b.jts.Nodup) (hlen : new.length = b.jts.length) (k : Int) (i : Nat) (hi : i < b.jts.length)
    (h : (k, b.jts[i]) ∈ b.tbl) :
    tget (posTbl b.tbl (b.jts.zip new) []) k = some (new[i]'(hlen ▸ hi)) := by
  have hz : i < (b.jts.zip new).length := by rw [List.length_zip, hlen, Nat.min_self]; exact hi
  -- the `i`-th pair is the only one whose old successor has an entry for `k`
  rw [tget_posTbl, find?_unique (x := (b.jts[i], new[i]'(hlen ▸ hi)))
    (List.mem_reverse.mpr (List.mem_iff_getElem.mpr ⟨i, hz, List.getElem_zip⟩)) (decide_eq_true h)]
  intro y hy hy'
  obtain ⟨j, hj, rfl⟩ := List.getElem_of_mem (List.mem_reverse.mp hy)
  rw [List.getElem_zip] at hy' ⊢
  have hji := (List.getElem_inj hnd).mp (Prod.mk.inj (hk _ (of_decide_eq_true hy') _ h rfl)).2
  subst hji
  rfl

theorem replaceJts_pos_covers (b : Blk) (new : List Name) (hk : KeysNodup b.tbl)
    (hnd : b.jts.Nodup) (hlen : new.length = b.jts.length)
    (hcov : ∀ t ∈ b.jts, ∃ p ∈ b.tbl, p.2 = t) :
    ∀ n ∈ new, ∃ q ∈ posTbl b.tbl (b.jts.zip new) [], q.2 = n := by
  intro n hn
  obtain ⟨i, hi, rfl⟩ := List.getElem_of_mem hn
  have hi' : i < b.jts.length := hlen ▸ hi
  obtain ⟨p, hp, hpo⟩ := hcov b.jts[i] (List.getElem_mem hi')
  have hp' : (p.1, b.jts[i]) ∈ b.tbl := hpo ▸ hp
  exact ⟨(p.1, new[i]), tget_some_mem (replaceJts_pos_lookup b new hk hnd hlen p.1 i hi' hp'), rfl⟩

theorem replaceJts_pos_keys (b : Blk) (new : List Name) (hk : KeysNodup b.tbl)
    (hnd : b.jts.Nodup) (hlen : new.length = b.jts.length)
    (hval : ∀ p ∈ b.tbl, p.2 ∈ b.jts) (k : Int) (h : (tget b.tbl k).isSome = true) :
    (tget (posTbl b.tbl (b.jts.zip new) []) k).isSome = true := by
  obtain ⟨v, hv⟩ := Option.isSome_iff_exists.mp h
  have hmem := tget_some_mem hv
  obtain ⟨i, hi, rfl⟩ := List.getElem_of_mem (hval _ hmem)
  rw [replaceJts_pos_lookup b new hk hnd hlen k i hi hmem]
  rfl

/-- The first two clauses of `tableOK`; declared back edges are re-targeted by a separate call. -/
theorem replaceJts_pos_tableOK (b : Blk) (new : List Name) (hb : b.kind.isBranching = true)
    (hk : KeysNodup b.tbl) (hnd : b.jts.Nodup) (hlen : new.length = b.jts.length)
    (hcov : ∀ t ∈ b.jts, ∃ p ∈ b.tbl, p.2 = t) :
    ∃ b', replaceJts b new = .ok b' ∧ b'.jts = new ∧
      (∀ q ∈ b'.tbl, q.2 ∈ b'.jts) ∧ (∀ n ∈ b'.jts, ∃ q ∈ b'.tbl, q.2 = n) :=
  ⟨_, replaceJts_pos_eq b new hb hlen, rfl, replaceJts_pos_values b new,
    replaceJts_pos_covers b new hk hnd hlen hcov⟩

/-! Non-vacuity: re-targeting the head of a unified loop header (both successors renamed). -/
def exHead : Blk where
  name := "h"
  kind := .synthHead
  jts := ["a", "b"]
  var := "v"
  tbl := [(0, "a"), (1, "b")]
example : posTbl exHead.tbl (exHead.jts.zip ["x", "y"]) [] = [(0, "x"), (1, "y")] := by decide +kernel
example : KeysNodup exHead.tbl ∧ exHead.jts.Nodup ∧ tableOK exHead = true := by
  refine ⟨?_, by decide +kernel, by decide +kernel⟩
  unfold KeysNodup
  decide +kernel

end Scfg.C06
