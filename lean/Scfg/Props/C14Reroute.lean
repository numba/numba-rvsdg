import Scfg.Props.C14Paths
/-!
# C14 / C01 / C06 — rerouting arcs through inserted control blocks leaves every path unchanged

`insert_block_and_control_blocks` replaces an arc `p → t` by `p → a → new → t`, where `a` assigns a fresh
control variable and `new` branches on it; the loop restructuring replaces back edges and exits by
`p → a → latch [→ exit-branch] → t` in the same way. Here the valuations of the two walks differ (on
the fresh variables only), so the comparison is through a relation on states.

`Rerouted H H' isNew isFresh K`: every block of `H` is still in `H'`, up to renaming targets through
`unr` (an arc into an inserted block is mapped to where the chain of inserted blocks starting there
ends, as computed by `chainEnd` from the assigned values alone) and up to declared back edges; no block
of `H` reads or writes a fresh variable.

`rerouted_paths`: for every such pair, every fuel and every decision sequence, an error-free walk by
name over `H'` shows the trace of the walk over `H` from the same original block.
-/
namespace Scfg.Reroute
open Scfg.Spec Scfg.C01 Scfg.C04

def AgreeOff (F : Name → Bool) (v' v : Val) : Prop := ∀ x, F x = false → v'.get? x = v.get? x

theorem AgreeOff.refl (F : Name → Bool) (v : Val) : AgreeOff F v v := fun _ _ => rfl

theorem AgreeOff.symm {F : Name → Bool} {a b : Val} (h : AgreeOff F a b) : AgreeOff F b a :=
  fun x hx => (h x hx).symm

theorem AgreeOff.trans {F : Name → Bool} {a b c : Val} (h1 : AgreeOff F a b) (h2 : AgreeOff F b c) :
    AgreeOff F a c := fun x hx => (h1 x hx).trans (h2 x hx)

theorem agree_set_both {F : Name → Bool} {v' v : Val} (h : AgreeOff F v' v) (x : Name) (i : Int) :
    AgreeOff F (v'.set x i) (v.set x i) := by
  intro y hy
  rw [Val.get?_set, Val.get?_set, h y hy]

-- `Val.setAll a` is a `foldl` of `Val.set` over `a`
theorem agree_setAll_both {F : Name → Bool} (a : List (Name × Int)) {v' v : Val} (h : AgreeOff F v' v) :
    AgreeOff F (v'.setAll a) (v.setAll a) :=
  List.foldl_rel (r := AgreeOff F) h fun p _ _ _ h => agree_set_both h p.1 p.2

theorem agree_set_fresh {F : Name → Bool} (v : Val) (x : Name) (i : Int) (hx : F x = true) :
    AgreeOff F (v.set x i) v := by
  intro y hy
  rw [Val.get?_set]
  have : y ≠ x := fun e => by rw [e, hx] at hy; cases hy
  simp [this]

theorem agree_setAll_fresh {F : Name → Bool} (a : List (Name × Int)) (v : Val)
    (h : ∀ p ∈ a, F p.1 = true) : AgreeOff F (v.setAll a) v :=
  List.foldlRecOn (motive := fun w => AgreeOff F w v) a _ (AgreeOff.refl F v)
    fun w hw p hp => (agree_set_fresh w p.1 p.2 (h p hp)).trans hw

theorem agree_erase_both {F : Name → Bool} {v' v : Val} (h : AgreeOff F v' v) (x : Name) :
    AgreeOff F (v'.erase x) (v.erase x) := by
  intro y hy
  rw [Val.get?_erase, Val.get?_erase, h y hy]

theorem agree_erase_fresh {F : Name → Bool} (v : Val) (x : Name) (hx : F x = true) :
    AgreeOff F (v.erase x) v := by
  intro y hy
  rw [Val.get?_erase]
  have : y ≠ x := fun e => by rw [e, hx] at hy; cases hy
  simp [this]

/-! ## Executing a block under two valuations that agree off the fresh variables -/

structure Untouched (F : Name → Bool) (b : Blk) : Prop where
  reads : b.kind.isBranching = true → F b.var = false
  writes : ∀ p ∈ b.asg, F p.1 = false

theorem agree_setAll_untouched {F : Name → Bool} (a : List (Name × Int)) : ∀ {v' v : Val},
    AgreeOff F v' v → AgreeOff F (v'.setAll a) (v.setAll a) := agree_setAll_both a

theorem synthExec_agree {F : Name → Bool} {b : Blk} (hb : Untouched F b) (consume : Bool) {v' v : Val}
    (hag : AgreeOff F v' v) (w' : Val) (oi : Option Nat) (hok : synthExec consume b v' = .ok (w', oi)) :
    ∃ w, synthExec consume b v = .ok (w, oi) ∧ AgreeOff F w' w := by
  cases hbr : b.kind.isBranching with
  | true =>
    obtain ⟨x, t, i, hv, hf, hi, e⟩ := (synthExec_branching hbr).mp hok
    cases e
    refine ⟨_, (synthExec_branching hbr).mpr ⟨x, t, i, (hag b.var (hb.reads hbr)).symm.trans hv, hf, hi, rfl⟩, ?_⟩
    split
    · exact agree_erase_both hag _
    · exact hag
  | false =>
    obtain ⟨hlen, e⟩ := (synthExec_plain hbr).mp hok
    cases e
    refine ⟨_, (synthExec_plain hbr).mpr ⟨hlen, rfl⟩, ?_⟩
    split
    · exact agree_setAll_both _ hag
    · exact hag

/-! ## Crossing a chain of inserted blocks -/

/-- the values known to have been assigned are the ones in the valuation -/
def Knows (σ v : Val) : Prop := ∀ x k, σ.get? x = some k → v.get? x = some k

theorem knows_nil (v : Val) : Knows [] v := by intro x k h; simp [Val.get?] at h

theorem knows_set {σ v : Val} (h : Knows σ v) (x : Name) (i : Int) : Knows (σ.set x i) (v.set x i) := by
  intro y k hy
  rw [Val.get?_set] at hy ⊢
  by_cases e : y = x
  · simpa [e] using hy
  · simp only [e, if_false] at hy ⊢; exact h y k hy

theorem knows_setAll (a : List (Name × Int)) {σ v : Val} (h : Knows σ v) : Knows (σ.setAll a) (v.setAll a) :=
  List.foldl_rel (r := Knows) h fun p _ _ _ h => knows_set h p.1 p.2

theorem knows_erase_left {σ v : Val} (h : Knows σ v) (x : Name) : Knows (σ.erase x) v := by
  intro y k hy
  rw [Val.get?_erase] at hy
  by_cases e : y = x
  · simp [e] at hy
  · simp only [e, if_false] at hy; exact h y k hy

theorem knows_erase_both {σ v : Val} (h : Knows σ v) (x : Name) : Knows (σ.erase x) (v.erase x) := by
  intro y k hy
  rw [Val.get?_erase] at hy ⊢
  by_cases e : y = x
  · simp [e] at hy
  · simp only [e, if_false] at hy ⊢; exact h y k hy

/-- **Crossing a chain.** A chain whose course is determined by its own assignments is crossed in at most `K`
    steps whatever the valuation, ending where `chainEnd` says, having changed fresh variables only: every
    block of the chain executes without error under a valuation that holds the values assigned so far. -/
theorem chain_cross (H' : Hier) (isNew isFresh : Name → Bool) (consume : Bool) (R : Nat) (hR : 1 ≤ R) :
    ∀ K n σ t, chainEnd H' isNew isFresh K n σ = some t → ∀ val', Knows σ val' →
      isNew t = false ∧ ∃ m val'', m ≤ K ∧ (isNew n = true → 1 ≤ m) ∧ AgreeOff isFresh val'' val' ∧
        ∀ g, advF H' consume R (g + m) n val' = advF H' consume R g t val'' := by
  obtain ⟨R, rfl⟩ := Nat.exists_eq_add_of_le' hR
  intro K n σ
  fun_induction chainEnd H' isNew isFresh K n σ with
  | case2 K n σ hn =>
    -- not an inserted block: the chain ends here
    intro t h val' _
    cases h
    rw [Bool.not_eq_true'] at hn
    exact ⟨hn, 0, val', Nat.zero_le _, fun e => absurd (hn.symm.trans e) Bool.false_ne_true,
      AgreeOff.refl _ _, fun g => rfl⟩
  | case10 K n σ _ b hg hro hbr hfr x hs t1 hf i hi t' ht ih =>
    -- a branching block: its variable is fresh and its value known
    intro t h val' hk
    rw [Bool.not_eq_true', Bool.not_eq_false] at hfr
    obtain ⟨val1, he, hk1, hag1⟩ : ∃ val1, synthExec consume b val' = .ok (val1, some i) ∧
        Knows (σ.erase b.var) val1 ∧ AgreeOff isFresh val1 val' := by
      refine ⟨_, (synthExec_branching hbr).mpr ⟨x, t1, i, hk _ _ hs, hf, hi, rfl⟩, ?_⟩
      split
      · exact ⟨knows_erase_both hk _, agree_erase_fresh _ _ hfr⟩
      · exact ⟨knows_erase_left hk _, AgreeOff.refl _ _⟩
    obtain ⟨h1, m, val'', hm, _, hag, hall⟩ := ih t h val1 hk1
    exact ⟨h1, m + 1, val'', Nat.succ_le_succ hm, fun _ => Nat.succ_pos m, hag.trans hag1,
      fun g => by rw [← Nat.add_assoc, advF_next hg hro he ht, hall]⟩
  | case12 K n σ _ b hg hro hbr hany t1 hj ih =>
    -- an assignment block (or a plain one): it writes fresh variables only and has one target
    intro t h val' hk
    rw [Bool.not_eq_true] at hbr hany
    have hall : ∀ p ∈ b.asg, isFresh p.1 = true := fun p hp => by
      simpa using (List.any_eq_false.mp hany) p hp
    obtain ⟨val1, he, hk1, hag1⟩ : ∃ val1, synthExec consume b val' = .ok (val1, some 0) ∧
        Knows (if b.kind == .synthAssign then σ.setAll b.asg else σ) val1 ∧ AgreeOff isFresh val1 val' := by
      refine ⟨_, (synthExec_plain hbr).mpr ⟨by rw [hj]; exact Nat.le_refl 1, by rw [hj]; rfl⟩, ?_⟩
      split
      · exact ⟨knows_setAll _ hk, agree_setAll_fresh _ _ hall⟩
      · exact ⟨hk, AgreeOff.refl _ _⟩
    obtain ⟨h1, m, val'', hm, _, hag, hall⟩ := ih t h val1 hk1
    exact ⟨h1, m + 1, val'', Nat.succ_le_succ hm, fun _ => Nat.succ_pos m, hag.trans hag1,
      fun g => by rw [← Nat.add_assoc, advF_next hg hro he (by rw [hj]; rfl), hall]⟩
  | _ => intro t h; cases h

/-- **Crossing, seen from a walk that is not an error.** If the chain from `n` is determined by the assigned
    values and ends at `t`, every error-free advance over `H'` from `n` is an advance from `t`, with less fuel
    if `n` is inserted, under a valuation that differs on fresh variables only. -/
theorem chain_adv (H' : Hier) (isNew isFresh : Name → Bool) (consume : Bool) (R : Nat) :
    ∀ K n σ t, chainEnd H' isNew isFresh K n σ = some t →
      ∀ f val' r', Knows σ val' → advF H' consume R f n val' = r' → r'.isErr = false →
      isNew t = false ∧ ∃ f0 val'', f0 + (if isNew n then 1 else 0) ≤ f ∧
        advF H' consume R f0 t val'' = r' ∧ AgreeOff isFresh val'' val' := by
  intro K n σ t h f val' r' hk hadv hne
  obtain ⟨_, _, hd⟩ := adv_of_advF hadv hne
  obtain ⟨ht, m, val'', _, hm, hag, hall⟩ := chain_cross H' isNew isFresh consume R hd.pos_R K n σ t h val' hk
  rcases Nat.lt_or_ge f m with hlt | hge
  · -- with less fuel than the chain is long the walk runs out of fuel
    have := adv_fuel_mono (F' := 0 + m) (Nat.le_refl R) (by omega) hadv hne
    rw [hall 0, advF] at this
    subst this
    cases hne
  · refine ⟨ht, f - m, val'', ?_, by rw [← hall, Nat.sub_add_cancel hge]; exact hadv, hag⟩
    split
    · have := hm ‹_›
      omega
    · omega

theorem unr_old {H' : Hier} {isNew isFresh : Name → Bool} {K : Nat} {x : Name} (h : isNew x = false) :
    unr H' isNew isFresh K x = x := by simp [unr, h]

/-- **Crossing, over `Adv`.** In front of `n'` stands a chain of inserted blocks (none if `n'` is old) that ends
    at `unr … n'`: a walk over `H'` from there is a walk from `n'` that passes at most `K` more blocks, under
    a valuation that differs on fresh variables only. -/
theorem adv_cross {H' : Hier} {isNew isFresh : Name → Bool} {K : Nat} {consume : Bool} {R : Nat} (hR : 1 ≤ R)
    {n' : Name} (val' : Val) (hent : isNew n' = true → (chainEnd H' isNew isFresh K n' []).isSome = true) :
    isNew (unr H' isNew isFresh K n') = false ∧ ∃ val'', AgreeOff isFresh val'' val' ∧
      ∀ {k1 r'}, Adv H' consume R k1 (unr H' isNew isFresh K n') val'' r' →
        Adv H' consume R (k1 + K) n' val' r' := by
  by_cases hn : isNew n' = true
  · obtain ⟨t, hc⟩ := Option.isSome_iff_exists.mp (hent hn)
    obtain ⟨ht, m, val'', hm, _, hag, hall⟩ :=
      chain_cross H' isNew isFresh consume R hR K n' [] t hc val' (knows_nil _)
    rw [show unr H' isNew isFresh K n' = t by simp [unr, hn, hc]]
    refine ⟨ht, val'', hag, fun {k1 r'} h1 => ?_⟩
    obtain ⟨k', hk', h'⟩ := adv_of_advF (hall (k1 + 1) ▸ advF_of_adv h1 _ (Nat.lt_succ_self _)) h1.not_err
    exact h'.mono (by omega)
  · rw [Bool.not_eq_true] at hn
    rw [unr_old hn]
    exact ⟨hn, val', AgreeOff.refl _ _, fun h1 => h1.mono (Nat.le_add_right _ _)⟩

/-! ## The relation between the two hierarchies -/

/-- `b'` is `b` with targets renamed (`u` undoes the renaming) in the successor tuple and the value
    table; declared back edges may differ (the walk by name does not read them) -/
structure SameUpToU (u : Name → Name) (b b' : Blk) : Prop where
  fields : b' = { b with jts := b'.jts, tbl := b'.tbl, bes := b'.bes }
  targets : b'.jts.map u = b.jts
  tbl : ∀ x : Int, (b.tbl.find? (fun p => p.1 == x)).map (·.2) =
    ((b'.tbl.find? (fun p => p.1 == x)).map (·.2)).map u
  inj : b.kind.isBranching = true → ∀ x ∈ b'.jts, ∀ y ∈ b'.jts, u x = u y → x = y

theorem SameUpToU.ren {u : Name → Name} {b b' : Blk} (h : SameUpToU u b b') : Ren u b b' := by
  have hf := h.fields
  exact ⟨by rw [hf], by rw [hf], by rw [hf], by rw [hf], h.targets, h.tbl, h.inj⟩

structure PairRel (H' : Hier) (isNew isFresh : Name → Bool) (K : Nat) (b b' : Blk) : Prop where
  same : SameUpToU (unr H' isNew isFresh K) b b'
  untouched : Untouched isFresh b
  /-- every arc into an inserted block starts a chain that is determined by its own assignments -/
  entries : ∀ x ∈ b'.jts, isNew x = true → (chainEnd H' isNew isFresh K x []).isSome = true

structure Rerouted (H H' : Hier) (isNew isFresh : Name → Bool) (K : Nat) : Prop where
  rel : ∀ n, isNew n = false → (H.get? n = none ∧ H'.get? n = none) ∨
    ∃ b b', H.get? n = some b ∧ H'.get? n = some b' ∧ PairRel H' isNew isFresh K b b'
  hdr : ∀ n b, H.get? n = some b → b.isRegion = true → isNew b.header = false

theorem resolve_rel (H H' : Hier) (isNew isFresh : Name → Bool) (K : Nat)
    (hS : Rerouted H H' isNew isFresh K) : ∀ R n, isNew n = false →
    (resolve H R n = none ∧ resolve H' R n = none) ∨
    ∃ b b', resolve H R n = some b ∧ resolve H' R n = some b' ∧ PairRel H' isNew isFresh K b b' ∧
      isNew b'.name = false :=
  resolve_sim hS.rel (fun _ _ h => ⟨h.same.ren.isRegion, by rw [h.same.fields]⟩) hS.hdr

def StRel (F : Name → Bool) : WState → WState → Prop
  | .at n v, .at n' v' => n = n' ∧ AgreeOff F v' v
  | .halt, .halt => True
  | _, _ => False

def OldSt (isNew : Name → Bool) : WState → Prop
  | .at n _ => isNew n = false
  | _ => True

/-- the states `rerouted_paths` compares, as an instance of `StSim` -/
theorem stSim_iff {isNew isFresh : Name → Bool} {r r' : WState} :
    StSim (fun n v v' => AgreeOff isFresh v' v ∧ isNew n = false) r r' ↔
      StRel isFresh r r' ∧ OldSt isNew r' := by
  cases r <;> cases r' <;> simp only [StSim, StRel, OldSt, and_self, false_and]
  exact ⟨fun ⟨e, a, o⟩ => ⟨⟨e, a⟩, e ▸ o⟩, fun ⟨⟨e, a⟩, o⟩ => ⟨e, a, e ▸ o⟩⟩

/-- The walk over `H` passes the same blocks except the inserted chains (strong induction on the count, as in
    `adv_unsplice`: behind a chain the hypothesis is needed at the chain's end). -/
theorem adv_rerouted {H H' : Hier} {isNew isFresh : Name → Bool} {K : Nat}
    (hS : Rerouted H H' isNew isFresh K) {consume : Bool} {R : Nat} :
    ∀ {k n val' val r'}, Adv H' consume R k n val' r' →
      (isNew n = true → (chainEnd H' isNew isFresh K n []).isSome = true) → AgreeOff isFresh val' val →
      ∃ r, Adv H consume R k (unr H' isNew isFresh K n) val r ∧ StRel isFresh r r' ∧ OldSt isNew r' := by
  intro k
  induction k using Nat.strongRecOn with
  | _ k ih =>
    intro n val' val r' h hent hag
    by_cases hn : isNew n = true
    · -- an inserted block: cross the chain
      obtain ⟨t, hc⟩ := Option.isSome_iff_exists.mp (hent hn)
      obtain ⟨ht, f0, val'', hle, ha, hag2⟩ := chain_adv H' isNew isFresh consume R K n [] t hc (k + 1) val' r'
        (knows_nil _) (advF_of_adv h _ (Nat.lt_succ_self _)) h.not_err
      obtain ⟨k0, hk0, h0⟩ := adv_of_advF ha h.not_err
      simp only [hn, if_true] at hle
      obtain ⟨r, h', hrel⟩ := ih k0 (by omega) h0 (fun e => by rw [ht] at e; cases e) (hag2.trans hag)
      have hu : unr H' isNew isFresh K n = t := by simp [unr, hn, hc]
      rw [unr_old ht] at h'
      exact ⟨r, hu ▸ h'.mono (by omega), hrel⟩
    · rw [Bool.not_eq_true] at hn
      rw [unr_old hn]
      have rel := fun {x'} (hx' : resolve H' R n = some x') =>
        left_of_rel (resolve_rel H H' isNew isFresh K hS R n hn) hx'
      cases h with
      | orig hb ho =>
        obtain ⟨x, hx, hp, hold⟩ := rel hb
        exact ⟨_, .orig hx (hp.same.ren.isOrig ▸ ho), ⟨hp.same.ren.name.symm, hag⟩, hold⟩
      | halt hb ho he =>
        obtain ⟨x, hx, hp, _⟩ := rel hb
        obtain ⟨w, he2, _⟩ := synthExec_agree hp.untouched consume hag _ _ (hp.same.ren.synthExec he)
        exact ⟨_, .halt hx (hp.same.ren.isOrig ▸ ho) he2, trivial, trivial⟩
      | next hb ho he ht hd =>
        obtain ⟨x, hx, hp, _⟩ := rel hb
        obtain ⟨w, he2, hagw⟩ := synthExec_agree hp.untouched consume hag _ _ (hp.same.ren.synthExec he)
        obtain ⟨r, h', hrel⟩ := ih _ (Nat.lt_succ_self _) hd (hp.entries _ (List.mem_of_getElem? ht)) hagw
        exact ⟨r, .next hx (hp.same.ren.isOrig ▸ ho) he2 (hp.same.ren.getElem? ht) h', hrel⟩

theorem adv_rel (H H' : Hier) (isNew isFresh : Name → Bool) (K : Nat)
    (hS : Rerouted H H' isNew isFresh K) (consume : Bool) (R : Nat) :
    ∀ f n val' val r', (isNew n = true → (chainEnd H' isNew isFresh K n []).isSome = true) →
      advF H' consume R f n val' = r' → r'.isErr = false → AgreeOff isFresh val' val →
      StRel isFresh (advF H consume R f (unr H' isNew isFresh K n) val) r' ∧ OldSt isNew r' := by
  intro f n val' val r' hent hadv hne hag
  obtain ⟨k, hk, hd⟩ := adv_of_advF hadv hne
  obtain ⟨r, hd', hrel⟩ := adv_rerouted hS hd hent hag
  rw [advF_of_adv hd' f hk]
  exact hrel

/-- `runs_eq_of_sim` for two systems over walk states -/
theorem runs_eq_of_rel (A B : Sys WState) (P : WState → WState → Prop)
    (key : ∀ sa sb, P sa sb → CleanRun B sb → A.obs sa = B.obs sb ∧
      ∀ d, d < (B.obs sb).arity → P (A.step sa d) (B.step sb d)) :
    ∀ (ds : List Nat) (sa sb : WState), P sa sb → CleanRun B sb → run A sa ds = run B sb ds :=
  runs_eq_of_sim A B P key

/-- **Rerouting arcs through inserted control blocks leaves every path unchanged.** -/
theorem rerouted_paths (H H' : Hier) (isNew isFresh : Name → Bool) (K : Nat)
    (hS : Rerouted H H' isNew isFresh K) (consume : Bool) (R F : Nat) :
    ∀ (ds : List Nat) (st st' : WState), StRel isFresh st st' → OldSt isNew st' →
      CleanRun (sysF H' consume R F) st' →
      run (sysF H consume R F) st ds = run (sysF H' consume R F) st' ds := by
  intro ds st st' h1 h2 hc
  refine walk_sim ?_ ds st st' (stSim_iff.mpr ⟨h1, h2⟩) hc
  rintro n va vb ⟨hag, hn⟩
  refine (hS.rel n hn).imp_right fun ⟨b, b', h1, h2, hp⟩ => ⟨b, b', h1, h2, ?_⟩
  refine arityIn_sim hp.same.ren.length (stepF_ren hp.same.ren fun t' ht' hne => ?_)
  exact stSim_iff.mpr (adv_rel H H' isNew isFresh K hS consume R F t' vb va _ (hp.entries t' ht') rfl hne hag)

/-! ## The decidable relation the harness evaluates on real steps -/

theorem sameUpToUB_sound {u : Name → Name} {b b' : Blk} (h : sameUpToUB u b b' = true) : SameUpToU u b b' := by
  simp only [sameUpToUB, Bool.and_eq_true, beq_iff_eq, Bool.or_eq_true, Bool.not_eq_true'] at h
  obtain ⟨⟨⟨h1, h2⟩, h3⟩, h4⟩ := h
  exact ⟨h1, h2, tblRelB_sound _ _ _ h3, fun hbr => injOn_sound (h4.resolve_left (by simp [hbr]))⟩

theorem untouchedB_sound {F : Name → Bool} {b : Blk} (h : untouchedB F b = true) : Untouched F b := by
  simp only [untouchedB, Bool.and_eq_true, Bool.or_eq_true, Bool.not_eq_true', List.all_eq_true] at h
  refine ⟨fun hbr => ?_, fun p hp => h.2 p hp⟩
  rcases h.1 with e | e
  · rw [hbr] at e; cases e
  · exact e

theorem reroutedB_sound (H H' : Hier) (fresh : List Name) (h : reroutedB H H' fresh = true) :
    Rerouted H H' (fun n => (H.get? n).isNone) (fun x => fresh.contains x) (H'.length + 1) := by
  simp only [reroutedB, Bool.and_eq_true] at h
  obtain ⟨h1, h2⟩ := h
  refine ⟨fun n hn => ?_, fun n b hg hreg => ?_⟩
  · right
    cases hg : H.get? n with
    | none => simp [hg] at hn
    | some b =>
      have hmem : n ∈ H.names ++ H'.names := List.mem_append_left _ (List.mem_map.mpr ⟨b, get?_mem hg⟩)
      have := List.all_eq_true.mp h1 n hmem
      simp only [hg, Option.isNone_some, Bool.false_or] at this
      cases hg' : H'.get? n with
      | none => simp [hg'] at this
      | some b' =>
        simp only [hg', Bool.and_eq_true, List.all_eq_true, Bool.or_eq_true, Bool.not_eq_true'] at this
        obtain ⟨⟨a1, a2⟩, a3⟩ := this
        refine ⟨b, b', rfl, rfl, sameUpToUB_sound a1, untouchedB_sound a2, fun x hx hnx => ?_⟩
        rcases a3 x hx with e | e
        · rw [hnx] at e; cases e
        · exact e
  · have := List.all_eq_true.mp h2 b (get?_mem hg).1
    simp only [Bool.or_eq_true, Bool.not_eq_true'] at this
    rcases this with e | e
    · exact e
    · rw [hreg] at e; cases e

theorem reroutedB_paths (H H' : Hier) (fresh : List Name) (h : reroutedB H H' fresh = true)
    (consume : Bool) (R F : Nat) (n : Name) (val : Val) (hn : (H.get? n).isSome = true)
    (hc : CleanRun (sysF H' consume R F) (.at n val)) (ds : List Nat) :
    run (sysF H consume R F) (.at n val) ds = run (sysF H' consume R F) (.at n val) ds :=
  rerouted_paths H H' _ _ _ (reroutedB_sound H H' fresh h) consume R F ds _ _
    ⟨rfl, AgreeOff.refl _ _⟩ (by simpa [OldSt] using hn) hc

/-! ## Non-vacuity: a two-way branch routed through two assignment blocks and a branching head -/

def exH : Hier := [
  { name := "p", jts := ["t1", "t2"] }, { name := "t1" }, { name := "t2" }]

def exH' : Hier := [
  { name := "p", jts := ["a1", "a2"] }, { name := "t1" }, { name := "t2" },
  { name := "a1", kind := .synthAssign, asg := [("cv", 0)], jts := ["new"] },
  { name := "a2", kind := .synthAssign, asg := [("cv", 1)], jts := ["new"] },
  { name := "new", kind := .synthHead, var := "cv", tbl := [(0, "t1"), (1, "t2")], jts := ["t1", "t2"] }]

example : reroutedB exH exH' ["cv"] = true := by decide +kernel

end Scfg.Reroute
