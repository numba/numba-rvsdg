import Scfg.Lemmas.List
/-!
# C10 — code generation emits every block exactly once

The harness collects, by object identity, the statements / tests / control-variable
assignments of the restructured graph (expected) and those found in the output tree (got), as
lists of tags, and asks `sameMultiset`. `census_sound`: a `true` answer means every tag occurs
in the output exactly as often as in the graph — nothing dropped, nothing duplicated, nothing
foreign.
-/
namespace Scfg.C10
open Scfg.Spec

theorem census_sound (expected got : List String) (h : sameMultiset expected got = true) :
    ∀ tag, got.count tag = expected.count tag :=
  fun tag => ((perm_of_sameMultiset h).count_eq tag).symm

example : sameMultiset ["s1", "s2", "a:x=0"] ["a:x=0", "s1", "s2"] = true := by decide +kernel
example : sameMultiset ["s1", "s2"] ["s1", "s1", "s2"] = false := by decide
example : sameMultiset ["s1", "s2"] ["s1"] = false := by decide

end Scfg.C10
