import Scfg.Spec.GraphDefs
import Scfg.Lemmas.WorkList
import Scfg.Lemmas.Hier
/-!
# C13 — graph queries return what their definitions prescribe

The harness compares every answer of the real queries with the executable reference
definitions of `Scfg/Spec/GraphDefs.lean` on all graphs of a small scope. This file relates
those reference definitions to the mathematical ones:

* `headRef_spec`     — the head is the unique member without in-level predecessor;
* `findHead_eq_ref`  — the model of `find_head` is that definition (abort ⇔ no unique head);
* `reachRef_sound`   — anything the closure contains is reachable by a genuine path;
* `reachRef_complete_bounded` — every path of length ≤ |level|+2 is found (partial: the step from
  bounded to arbitrary paths — a shortest path never repeats a node — is not formalised; it is
  covered by the exhaustive comparison with the independent DFS);
* `exitingRef_spec`  — the exiting blocks of a subset, by membership (`headersRef`, `entriesRef` and
  `exitsRef` are read by the comparison only: no theorem speaks of them);
* `domRef_false_witness`, `dominates_of_all_paths` — when the reference `domRefGen` denies dominance, a
  path from an entry avoids `a` (one direction);
* `reachDfs_spec`    — the model of `is_reachable_dfs` itself: whenever it answers, `true` iff a path
  exists (`reachGo_sound`, `reachGo_complete`: the loop, for any successor function).
-/
namespace Scfg.C13
open Scfg.Model Scfg.Spec

/-- A path of at least one non-back-edge arc that continues only through members. -/
inductive Reach (lvl : List Blk) : Name → Name → Prop
  | arc {a b : Name} : b ∈ succOf lvl a → Reach lvl a b
  | step {a m b : Name} : Reach lvl a m → b ∈ succOf lvl m → Reach lvl a b

/-- The same with the number of arcs. -/
inductive ReachN (lvl : List Blk) : Nat → Name → Name → Prop
  | arc {a b : Name} : b ∈ succOf lvl a → ReachN lvl 1 a b
  | step {n : Nat} {a m b : Name} : ReachN lvl n a m → b ∈ succOf lvl m → ReachN lvl (n + 1) a b

/-- One round of a closure: `s` and the `g`-successors of its members (`expand`, and the round of
    `reachAvoid`). -/
theorem mem_grow {g : Name → List Name} {s : List Name} {x : Name} :
    x ∈ dedup (s ++ s.foldl (fun acc v => acc ++ g v) []) ↔ x ∈ s ∨ ∃ v ∈ s, x ∈ g v := by
  rw [mem_dedup, List.mem_append, ← List.flatMap_eq_foldl, List.mem_flatMap]

theorem mem_expand {lvl : List Blk} {s : List Name} {x : Name} :
    x ∈ expand lvl s ↔ x ∈ s ∨ ∃ v ∈ s, x ∈ succOf lvl v :=
  mem_grow

theorem iter_invariant {α : Type} {f : α → α} (I : α → Prop) (h : ∀ s, I s → I (f s)) :
    ∀ (n : Nat) (s : α), I s → I (iter f n s)
  | 0, _, hs => hs
  | n + 1, s, hs => iter_invariant I h n (f s) (h s hs)

theorem iter_succ_comm {α : Type} (f : α → α) (n : Nat) (x : α) :
    iter f (n + 1) x = f (iter f n x) := by
  induction n generalizing x with
  | zero => rfl
  | succ n ih => exact ih (f x)

/-- **Reachability, soundness.** A positive answer of the reference (and hence, by the
    exhaustive comparison, of `is_reachable_dfs`) is witnessed by a genuine path of at least
    one arc that continues only through members. -/
theorem reachRef_sound (lvl : List Blk) (a b : Name) (h : reachRef lvl a b = true) :
    Reach lvl a b := by
  -- every round only adds names reachable from `a`
  refine iter_invariant (fun s => ∀ x ∈ s, Reach lvl a x) (fun s hs y hy => ?_)
    _ _ (fun x hx => .arc (mem_dedup.mp hx)) b (List.contains_iff_mem.mp h)
  rcases mem_expand.mp hy with h | ⟨v, hv, hyv⟩
  · exact hs y h
  · exact (hs v hv).step hyv

theorem ReachN.pos {lvl : List Blk} {k : Nat} {a b : Name} (h : ReachN lvl k a b) : 1 ≤ k := by
  cases h <;> omega

theorem iter_expand_complete {lvl : List Blk} {a b : Name} {k : Nat} (h : ReachN lvl k a b) (n : Nat)
    (hn : k ≤ n + 1) : b ∈ iter (expand lvl) n (dedup (succOf lvl a)) := by
  induction h generalizing n with
  | arc hb =>
    exact iter_invariant (_ ∈ ·) (fun s hx => mem_expand.mpr (Or.inl hx)) n _ (mem_dedup.mpr hb)
  | @step k' a' m b' hprev hb ih =>
    cases n with
    | zero => exact absurd hprev.pos (by omega)
    | succ n =>
      rw [iter_succ_comm]
      exact mem_expand.mpr (Or.inr ⟨m, ih n (Nat.le_of_succ_le_succ hn), hb⟩)

/-- **Reachability, completeness for bounded paths** (partial, see the header). -/
theorem reachRef_complete_bounded (lvl : List Blk) (a b : Name) (k : Nat)
    (h : ReachN lvl k a b) (hk : k ≤ lvl.length + 2) : reachRef lvl a b = true :=
  List.contains_iff_mem.mpr (iter_expand_complete h (lvl.length + 1) (by omega))

/-- **Head.** When `headRef` answers `h`, `h` is a member no member names, and the only one. -/
theorem headRef_spec (lvl : List Blk) (h : Name) (hh : headRef lvl = some h) :
    ∃ b ∈ lvl, b.name = h ∧ (∀ a ∈ lvl, h ∉ a.jt) ∧
      ∀ b' ∈ lvl, (∀ a ∈ lvl, b'.name ∉ a.jt) → b' = b :=
  -- `headRef` is `findHeadOf` (Sem.lean) written a second time
  findHeadOf_spec hh

/-- The model of `find_head` *is* the definition: it answers exactly when there is a unique
    head, and raises the assertion otherwise. -/
theorem findHead_eq_ref (H : Hier) (c : Name) :
    findHead H c = match headRef (H.level c) with
      | some h => .ok h
      | none => .error (assertionAt "find_head") :=
  findHead_eq H c

theorem exitingRef_spec (lvl : List Blk) (sub : List Name) (n : Name) :
    n ∈ exitingRef lvl sub ↔
      ∃ b ∈ lvl, b.name = n ∧ n ∈ sub ∧ (b.jt = [] ∨ ∃ t ∈ b.jt, t ∉ sub) := by
  unfold exitingRef
  simp only [mem_sortNames, mem_dedup, List.mem_map, List.mem_filter, Bool.and_eq_true,
    Bool.or_eq_true, List.isEmpty_iff, List.any_eq_true, Bool.not_eq_true', Bool.eq_false_iff,
    ne_eq, List.contains_iff_mem]
  constructor
  · rintro ⟨b, ⟨hb, hs, hj⟩, rfl⟩
    exact ⟨b, hb, rfl, hs, hj⟩
  · rintro ⟨b, hb, rfl, hs, hj⟩
    exact ⟨b, ⟨hb, hs, hj⟩, rfl⟩

/-! ## Dominance: the reference `domRefGen` against the path definition -/

/-- A path (zero or more arcs of `succ`, inside the level) from `e` to `x` that never touches `a`. -/
inductive PathAvoid (lvl : List Blk) (succ : Name → List Name) (a : Name) : Name → Name → Prop
  | refl {e : Name} : e ≠ a → PathAvoid lvl succ a e e
  | step {e m x : Name} : PathAvoid lvl succ a e m → x ∈ succAvoid lvl succ a m →
      PathAvoid lvl succ a e x

theorem reachAvoid_sound {lvl : List Blk} {succ : Name → List Name} {entries : List Name}
    {a x : Name} (h : x ∈ reachAvoid lvl succ entries a) :
    ∃ e ∈ entries, PathAvoid lvl succ a e x := by
  refine iter_invariant (fun s => ∀ y ∈ s, ∃ e ∈ entries, PathAvoid lvl succ a e y)
    (fun s hs z hz => ?_) _ _ (fun y hy => ?_) x h
  · rcases mem_grow.mp hz with h1 | ⟨v, hv, hzv⟩
    · exact hs z h1
    · obtain ⟨e, he, hp⟩ := hs v hv
      exact ⟨e, he, hp.step hzv⟩
  · obtain ⟨hy1, hy2⟩ := List.mem_filter.mp hy
    exact ⟨y, hy1, .refl (by simpa using hy2)⟩

/-- **Dominance, one direction, all graphs.** When the reference says `a` does *not* dominate
    `b`, there is a genuine path from an entry to `b` that avoids `a` — so whenever every
    entry-to-`b` path passes `a`, the reference (and, by the exhaustive comparison, `_doms` /
    `_post_doms`) says "dominates". -/
theorem domRef_false_witness (lvl : List Blk) (succ : Name → List Name) (entries : List Name)
    (a b : Name) (h : domRefGen lvl succ entries a b = false) :
    a ≠ b ∧ ∃ e ∈ entries, PathAvoid lvl succ a e b := by
  simp only [domRefGen, Bool.or_eq_false_iff, beq_eq_false_iff_ne, Bool.not_eq_false',
    List.contains_iff_mem] at h
  exact ⟨h.1, reachAvoid_sound h.2⟩

theorem dominates_of_all_paths (lvl : List Blk) (succ : Name → List Name) (entries : List Name)
    (a b : Name) (hall : ∀ e ∈ entries, ¬ PathAvoid lvl succ a e b) :
    domRefGen lvl succ entries a b = true := by
  cases h : domRefGen lvl succ entries a b with
  | true => rfl
  | false =>
    obtain ⟨_, e, he, hp⟩ := domRef_false_witness lvl succ entries a b h
    exact absurd hp (hall e he)

/-! ## The model of `is_reachable_dfs` itself (partial correctness, all graphs) -/

inductive ReachS (succ : Name → List Name) : Name → Name → Prop
  | arc {a b : Name} : b ∈ succ a → ReachS succ a b
  | step {a m b : Name} : ReachS succ a m → b ∈ succ m → ReachS succ a b

/-- **Soundness of the work-list loop.** If everything on the stack is reachable from `a`, a
    `true` answer is witnessed by a genuine path. -/
theorem reachGo_sound {succ : Name → List Name} {a end_ : Name} {f : Nat} {stack seen : List Name}
    (hst : ∀ x ∈ stack, ReachS succ a x) (h : reachGo succ end_ f stack seen = .ok true) :
    ReachS succ a end_ := by
  fun_induction reachGo succ end_ f stack seen with
  | case1 | case2 => cases h -- out of fuel; empty stack
  | case3 f blk stack seen _ ih => -- the top is already seen
    exact ih (fun x hx => hst x (List.mem_cons_of_mem _ hx)) h
  | case4 f blk stack seen _ he => -- the top is `end_`
    exact beq_iff_eq.mp he ▸ hst blk List.mem_cons_self
  | case5 f blk stack seen _ _ ih => -- the top is marked seen and its successors are pushed
    refine ih (fun x hx => ?_) h
    rcases List.mem_append.mp hx with h1 | h1
    · exact (hst blk List.mem_cons_self).step (List.mem_reverse.mp h1)
    · exact hst x (List.mem_cons_of_mem _ h1)

/-- A `false` answer comes from a search that followed the successors to the end and never met `end_`. -/
theorem reachGo_false {succ : Name → List Name} {end_ : Name} {f : Nat} {stack seen : List Name}
    (h : reachGo succ end_ f stack seen = .ok false) :
    ∃ vis : List (Name × List Name × Unit),
      Search id (fun x new _ => x ≠ end_ ∧ new = succ x) stack seen vis := by
  fun_induction reachGo succ end_ f stack seen with
  | case1 | case4 => cases h -- out of fuel; the top is `end_`
  | case2 => exact ⟨[], .done⟩ -- empty stack
  | case3 f blk stack seen hb ih => -- the top is already seen
    obtain ⟨vis, hs⟩ := ih h
    exact ⟨vis, .skip (List.contains_iff_mem.mp hb) hs⟩
  | case5 f blk stack seen hb hbe ih => -- the top is marked seen and its successors are pushed
    obtain ⟨vis, hs⟩ := ih h
    exact ⟨(blk, succ blk, ()) :: vis,
      .visit (mt List.contains_iff_mem.mpr hb) ⟨mt beq_iff_eq.mpr hbe, rfl⟩ (fun y => by simp) hs⟩

theorem Reach.toS {lvl : List Blk} {a b : Name} (h : Reach lvl a b) : ReachS (succOf lvl) a b := by
  induction h with
  | arc hb => exact .arc hb
  | step _ hb ih => exact ih.step hb

theorem reachS_closed {succ : Name → List Name} (cl : List Name)
    (hcl : ∀ x ∈ cl, ∀ y ∈ succ x, y ∈ cl) {a b : Name} (h : ReachS succ a b)
    (ha : ∀ y ∈ succ a, y ∈ cl) : b ∈ cl := by
  induction h with
  | arc hb => exact ha _ hb
  | step _ hb ih => exact hcl _ ih _ hb

/-- **Completeness of the work-list loop.** If the stack holds the successors of `a` and nothing has
    been seen, a `false` answer means that no path leads from `a` to `end_`: the names visited are closed
    under successors, and `end_` is not among them. -/
theorem reachGo_complete {succ : Name → List Name} {a end_ : Name} {f : Nat} {stack : List Name}
    (hst : ∀ y ∈ succ a, y ∈ stack) (h : reachGo succ end_ f stack [] = .ok false) :
    ¬ ReachS succ a end_ := fun hreach => by
  obtain ⟨vis, hs⟩ := reachGo_false h
  obtain ⟨hvis, -, hq, hnew⟩ := hs.spec_nil (fun _ => True) (fun _ _ _ _ _ _ _ => trivial)
    fun _ _ => trivial
  obtain ⟨t, ht, e⟩ := List.mem_map.mp (reachS_closed (vis.map (·.1)) (fun x hx y hy => by
    obtain ⟨t, ht, rfl⟩ := List.mem_map.mp hx
    exact List.mem_map.mpr (hnew t ht y ((hvis t ht).2.2 ▸ hy)))
    hreach fun y hy => List.mem_map.mpr (hq y (hst y hy)))
  exact absurd e (hvis t ht).2.1

theorem reachDfs_eq {H : Hier} {c a : Name} {blk : Blk} (ha : H.getIn? c a = some blk) (b : Name) :
    reachDfs H c a b = reachGo (succIn' H c) b
      (((H.level c).foldl (fun n x => n + x.jts.length) 0) + (H.level c).length + blk.jts.length + 4)
      (succIn' H c a).reverse [] := by
  simp only [reachDfs, getIn, succIn', ha]
  rfl

/-- **`is_reachable_dfs`, partial correctness of the model, for every graph** (members with
    external, duplicate and self targets alike): whenever the model answers, the answer is
    `true` exactly when a path of at least one non-back-edge arc, continuing only through
    members, leads from `begin` to `end`. (That the fuel always suffices is `reachDfs_total`,
    Props/C13Reach.lean.) -/
theorem reachDfs_spec (H : Hier) (c a b : Name) (r : Bool) (h : reachDfs H c a b = .ok r) :
    r = true ↔ ReachS (succIn' H c) a b := by
  obtain ⟨blk, hg, -⟩ := bind_eq_ok h
  rw [reachDfs_eq (getIn_eq_ok.mp hg)] at h
  cases r with
  | true => exact iff_of_true rfl (reachGo_sound (fun x hx => .arc (List.mem_reverse.mp hx)) h)
  | false => exact iff_of_false Bool.false_ne_true (reachGo_complete (fun y hy => List.mem_reverse.mpr hy) h)

/-! Non-vacuity (kernel evaluation). -/
def exLvl : List Blk := [
  { cont := "m", name := "a", jts := ["b", "x"] },
  { cont := "m", name := "b", jts := ["b", "c"], bes := ["b"] },
  { cont := "m", name := "c", jts := ["a"] }]
example : reachRef exLvl "a" "a" = true := by decide +kernel
example : reachRef exLvl "a" "x" = true := by decide +kernel
example : reachRef exLvl "x" "a" = false := by decide +kernel
example : sccRef exLvl = [["a", "b", "c"]] := by decide +kernel
example : headRef exLvl = none := by decide +kernel

end Scfg.C13
