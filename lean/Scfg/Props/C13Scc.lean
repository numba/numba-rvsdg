import Scfg.Props.C13
/-!
# C13 — a verified validator for the strongly connected components

Tarjan's algorithm (`compute_scc`, vendored) is not proved correct a priori. Instead every answer
of the real code is judged by `Spec.sccValid`, and this file proves what a `true` verdict means, in
terms of the inductive path relation `Reach` (at least one non-back-edge arc, continuing through
members only): the components partition the members, any two different members of one component
reach each other, and members of different components never reach each other both ways — i.e. the
non-empty components are, as sets, exactly the maximal sets of mutually reachable blocks (an empty
component, or a name listed twice inside one, is not rejected). Non-reachability is not
computed but *certified*: by a set that contains the successors of `a`, is closed under
successors, and does not contain `b`.
-/
namespace Scfg.C13
open Scfg.Spec

theorem notReachCert_sound {lvl : List Blk} {a b : Name} (h : notReachCert lvl a b = true) :
    ¬ Reach lvl a b := by
  simp only [notReachCert, closedUnder, Bool.and_eq_true, List.all_eq_true, Bool.not_eq_true',
    List.contains_iff_mem] at h
  obtain ⟨⟨h1, h2⟩, h3⟩ := h
  intro hr
  have hb := reachS_closed (reachSet lvl a) h2 hr.toS h1
  rw [List.contains_iff_mem.mpr hb] at h3
  cases h3

theorem disjointAll_sound {comps : List (List Name)} (h : disjointAll comps = true) :
    comps.Pairwise (fun c d => ∀ x ∈ c, x ∉ d) := by
  induction comps with
  | nil => exact .nil
  | cons c cs ih =>
    simp only [disjointAll, Bool.and_eq_true, List.all_eq_true, Bool.not_eq_true'] at h
    refine .cons (fun d hd x hx hxd => ?_) (ih h.2)
    have hf := h.1 d hd x hx
    rw [List.contains_iff_mem.mpr hxd] at hf
    cases hf

theorem crossOK_sound {lvl : List Blk} {comps : List (List Name)} (h : crossOK lvl comps = true) :
    comps.Pairwise (fun c d => ∀ a ∈ c, ∀ b ∈ d, ¬ (Reach lvl a b ∧ Reach lvl b a)) := by
  induction comps with
  | nil => exact .nil
  | cons c cs ih =>
    simp only [crossOK, Bool.and_eq_true, List.all_eq_true, Bool.or_eq_true] at h
    refine .cons (fun d hd a ha b hb hr => ?_) (ih h.2)
    rcases h.1 d hd a ha b hb with hh | hh
    · exact notReachCert_sound hh hr.1
    · exact notReachCert_sound hh hr.2

/-- **What a `true` verdict of the SCC validator means.** -/
theorem sccValid_sound (lvl : List Blk) (comps : List (List Name)) (h : sccValid lvl comps = true) :
    (∀ v ∈ lvl.map (·.name), ∃ c ∈ comps, v ∈ c) ∧
    (∀ c ∈ comps, ∀ v ∈ c, v ∈ lvl.map (·.name)) ∧
    comps.Pairwise (fun c d => ∀ x ∈ c, x ∉ d) ∧
    (∀ c ∈ comps, ∀ a ∈ c, ∀ b ∈ c, a ≠ b → Reach lvl a b) ∧
    comps.Pairwise (fun c d => ∀ a ∈ c, ∀ b ∈ d, ¬ (Reach lvl a b ∧ Reach lvl b a)) := by
  simp only [sccValid, Bool.and_eq_true, List.all_eq_true, List.any_eq_true, List.contains_iff_mem,
    Bool.or_eq_true, beq_iff_eq] at h
  obtain ⟨⟨⟨⟨h1, h2⟩, h3⟩, h4⟩, h5⟩ := h
  exact ⟨h1, h2, disjointAll_sound h3,
    fun c hc a ha b hb hab => reachRef_sound lvl a b ((h4 c hc a ha b hb).resolve_left hab),
    crossOK_sound h5⟩

/-! Non-vacuity: `a → b ⇄ c → d`: components `{a} {b,c} {d}` are accepted, `{a,b} {c} {d}` is not. -/
def sccDemo : List Blk := [
  { cont := "m", name := "a", jts := ["b"] }, { cont := "m", name := "b", jts := ["c"] },
  { cont := "m", name := "c", jts := ["b", "d"] }, { cont := "m", name := "d" }]
example : sccValid sccDemo [["a"], ["b", "c"], ["d"]] = true := by decide +kernel
example : sccValid sccDemo [["a", "b"], ["c"], ["d"]] = false := by decide +kernel
example : sccValid sccDemo [["a"], ["b"], ["c"], ["d"]] = false := by decide +kernel

end Scfg.C13
