import Scfg.Lemmas.Walk
/-!
# Walks with explicit fuel

The specification-level walk `sysName H` uses two fuel bounds that depend on the size of `H`
(`walkFuel H` steps through synthetic blocks, `H.length + 1` region headers per name). Statements that
compare the walks of *two* hierarchies of different size are made for the same walk with the fuel as
parameters (`sysF H consume R F`; `sysName H consume = sysF H consume (H.length + 1) (walkFuel H)`), and
hold for every choice of the fuel.

`Adv H consume R k n val s` is the run through synthetic blocks as a relation: `advF` with the fuel turned
into a bound `k` on the number of synthetic blocks passed. A statement about `advF` over two hierarchies is an
induction over `Adv` (or over `k`, where an inserted block is crossed) that gives the bound over one hierarchy from the
bound over the other, and monotonicity in both kinds of fuel is a corollary. `synthExec_branching` / `synthExec_plain`
say when a synthetic block executes without error.
-/
namespace Scfg.C01
open Scfg.C04

/-- `advanceName` with the header fuel `R` as a parameter -/
def advF (H : Hier) (consume : Bool) (R : Nat) : Nat → Name → Val → WState
  | 0, n, _ => .err false s!"out-of-fuel at {n}"
  | f + 1, n, val =>
    match resolve H R n with
    | none => .err false s!"dangling {n}"
    | some b =>
      if b.isOrig then .at b.name val
      else match synthExec consume b val with
        | .error e => .err e.1 e.2
        | .ok (_, none) => .halt
        | .ok (val', some i) =>
          match b.jts[i]? with
          | none => .err false s!"bad-index {b.name}"
          | some t => advF H consume R f t val'

theorem advanceName_eq_advF (H : Hier) (consume : Bool) : ∀ f n val,
    advanceName H consume f n val = advF H consume (H.length + 1) f n val := by
  intro f
  induction f with
  | zero => intro n val; rfl
  | succ f ih => intro n val; simp only [advanceName, advF, ih]; rfl

def stepF (H : Hier) (consume : Bool) (R F : Nat) (b : Blk) (val : Val) (i : Nat) : WState :=
  match b.jts[i]? with
  | none => .err false s!"bad-index {b.name}"
  | some t => advF H consume R F t val

theorem stepF_some {H : Hier} {consume : Bool} {R F : Nat} {b : Blk} {i : Nat} {t : Name}
    (ht : b.jts[i]? = some t) (val : Val) : stepF H consume R F b val i = advF H consume R F t val := by
  rw [stepF, ht]

def sysF (H : Hier) (consume : Bool) (R F : Nat) : Sys WState where
  obs := obsOf H (stepF H consume R F)
  step := fun s i => match s with
    | .at n val => match H.get? n with
      | none => .err false s!"no-such-block {n}"
      | some b => stepF H consume R F b val i
    | s => s

theorem sysF_eq_walkSys (H : Hier) (consume : Bool) (R F : Nat) :
    sysF H consume R F = walkSys H (stepF H consume R F) := rfl

theorem sysName_eq_sysF (H : Hier) (consume : Bool) :
    sysName H consume = sysF H consume (H.length + 1) (walkFuel H) := by
  rw [sysName_eq_walkSys, sysF_eq_walkSys]
  exact congrArg (walkSys H) (funext fun b => funext fun val => funext fun i => by
    simp only [stepName, stepF, advanceName_eq_advF]; rfl)

theorem resolve_mono (H : Hier) : ∀ R n b, resolve H R n = some b → resolve H (R + 1) n = some b := by
  intro R n
  fun_induction resolve H R n with
  | case1 | case2 => intro b h; cases h
  | case3 R n x hx hr ih => intro b h; rw [resolve_region hx hr]; exact ih b h
  | case4 R n x hx hr => intro b h; rw [resolve_block hx (Bool.not_eq_true _ ▸ hr)]; exact h

theorem resolve_mono_le (H : Hier) (n : Name) (b : Blk) : ∀ R R', R ≤ R' → resolve H R n = some b →
    resolve H R' n = some b := by
  intro R R' hle
  induction hle with
  | refl => exact id
  | step _ ih => intro h; exact resolve_mono H _ n b (ih h)

/-! ## Executing a synthetic block -/

section
variable {consume : Bool} {b : Blk} {val : Val} {res : Val × Option Nat}

theorem synthExec_branching (hbr : b.kind.isBranching = true) :
    synthExec consume b val = .ok res ↔ ∃ x t i, val.get? b.var = some x ∧
      (b.tbl.find? (fun p => p.1 == x)).map (·.2) = some t ∧ idxOf b.jts t = some i ∧
      res = (if consume && b.kind == .synthLatch then val.erase b.var else val, some i) := by
  rw [synthExec, if_pos hbr]
  constructor
  · intro h
    cases hv : val.get? b.var with
    | none => rw [hv] at h; cases h
    | some x =>
      simp only [hv] at h
      cases hf : (b.tbl.find? (fun p => p.1 == x)).map (·.2) with
      | none => rw [hf] at h; cases h
      | some t =>
        simp only [hf] at h
        cases hi : idxOf b.jts t with
        | none => rw [hi] at h; cases h
        | some i =>
          simp only [hi] at h
          exact ⟨x, t, i, rfl, hf, hi, (Except.ok.inj h).symm⟩
  · rintro ⟨x, t, i, hv, hf, hi, rfl⟩
    simp only [hv, hf, hi]

theorem synthExec_plain (hbr : b.kind.isBranching = false) :
    synthExec consume b val = .ok res ↔ b.jts.length ≤ 1 ∧
      res = (if b.kind == .synthAssign then val.setAll b.asg else val,
        if b.jts.length = 0 then none else some 0) := by
  rw [synthExec, if_neg (ne_true_of_eq_false hbr)]
  match b.jts with
  | [] => exact ⟨fun h => ⟨Nat.zero_le 1, (Except.ok.inj h).symm⟩, fun h => h.2 ▸ rfl⟩
  | [_] => exact ⟨fun h => ⟨Nat.le_refl 1, (Except.ok.inj h).symm⟩, fun h => h.2 ▸ rfl⟩
  | _ :: _ :: _ => exact ⟨nofun, fun h => absurd h.1 (by simp)⟩

end

/-! ## The walk through synthetic blocks as a relation -/

/-- `Adv H consume R k n val s`: the walk by name from `n` passes at most `k` synthetic blocks and then ends in
    `s`, an original block or a halt. -/
inductive Adv (H : Hier) (consume : Bool) (R : Nat) : Nat → Name → Val → WState → Prop
  | orig {k n val b} : resolve H R n = some b → b.isOrig = true → Adv H consume R k n val (.at b.name val)
  | halt {k n val b val'} : resolve H R n = some b → b.isOrig = false →
      synthExec consume b val = .ok (val', none) → Adv H consume R k n val .halt
  | next {k n val b val' i t s} : resolve H R n = some b → b.isOrig = false →
      synthExec consume b val = .ok (val', some i) → b.jts[i]? = some t →
      Adv H consume R k t val' s → Adv H consume R (k + 1) n val s

theorem Adv.not_err {H : Hier} {consume : Bool} {R k : Nat} {n : Name} {val : Val} {s : WState}
    (h : Adv H consume R k n val s) : s.isErr = false := by
  induction h with
  | orig | halt => rfl
  | next _ _ _ _ _ ih => exact ih

theorem advF_of_adv {H : Hier} {consume : Bool} {R k : Nat} {n : Name} {val : Val} {s : WState}
    (h : Adv H consume R k n val s) : ∀ f, k < f → advF H consume R f n val = s := by
  induction h with
  | orig hb ho =>
    intro f hf
    cases f with
    | zero => exact absurd hf (Nat.not_lt_zero _)
    | succ f => simp only [advF, hb, ho, if_true]
  | halt hb ho he =>
    intro f hf
    cases f with
    | zero => exact absurd hf (Nat.not_lt_zero _)
    | succ f => simp only [advF, hb, ho, he, Bool.false_eq_true, if_false]
  | next hb ho he ht _ ih =>
    intro f hf
    cases f with
    | zero => exact absurd hf (Nat.not_lt_zero _)
    | succ f =>
      simp only [advF, hb, ho, he, ht, Bool.false_eq_true, if_false]
      exact ih f (Nat.lt_of_succ_lt_succ hf)

theorem adv_of_advF {H : Hier} {consume : Bool} {R : Nat} : ∀ {f n val s},
    advF H consume R f n val = s → s.isErr = false → ∃ k, k < f ∧ Adv H consume R k n val s := by
  intro f n val
  fun_induction advF H consume R f n val with
  | case3 f n val b hb ho => intro s h _; exact ⟨0, Nat.succ_pos f, h ▸ .orig hb ho⟩
  | case5 f n val b hb ho val' he =>
    intro s h _
    exact ⟨0, Nat.succ_pos f, h ▸ .halt hb (Bool.not_eq_true _ ▸ ho) he⟩
  | case7 f n val b hb ho val' i he t ht ih =>
    intro s h hs
    obtain ⟨k, hk, hd⟩ := ih h hs
    exact ⟨k + 1, Nat.succ_lt_succ hk, .next hb (Bool.not_eq_true _ ▸ ho) he ht hd⟩
  | _ => intro s h hs; subst h; cases hs

theorem Adv.mono {H : Hier} {consume : Bool} {R k : Nat} {n : Name} {val : Val} {s : WState}
    (h : Adv H consume R k n val s) : ∀ {k'}, k ≤ k' → Adv H consume R k' n val s := by
  induction h with
  | orig hb ho => exact fun _ => .orig hb ho
  | halt hb ho he => exact fun _ => .halt hb ho he
  | next hb ho he ht _ ih =>
    intro k' hk
    obtain ⟨k', rfl⟩ := Nat.exists_eq_add_of_le' (Nat.le_trans (Nat.succ_pos _) hk)
    exact .next hb ho he ht (ih (Nat.le_of_succ_le_succ hk))

theorem Adv.mono_R {H : Hier} {consume : Bool} {R R' k : Nat} {n : Name} {val : Val} {s : WState}
    (h : Adv H consume R k n val s) (hR : R ≤ R') : Adv H consume R' k n val s := by
  induction h with
  | orig hb ho => exact .orig (resolve_mono_le H _ _ _ _ hR hb) ho
  | halt hb ho he => exact .halt (resolve_mono_le H _ _ _ _ hR hb) ho he
  | next hb ho he ht _ ih => exact .next (resolve_mono_le H _ _ _ _ hR hb) ho he ht ih

theorem Adv.at_get {H : Hier} {consume : Bool} {R k : Nat} {n y : Name} {val z : Val}
    (h : Adv H consume R k n val (.at y z)) : ∃ b, H.get? y = some b ∧ b.isOrig = true := by
  generalize hs : WState.at y z = s at h
  induction h with
  | orig hb ho => cases hs; exact ⟨_, (resolve_get hb).1, ho⟩
  | halt => cases hs
  | next _ _ _ _ _ ih => exact ih hs

theorem Adv.resolved {H : Hier} {consume : Bool} {R k : Nat} {n : Name} {val : Val} {s : WState}
    (h : Adv H consume R k n val s) : ∃ b, resolve H R n = some b := by
  cases h with
  | orig hb _ | halt hb _ _ | next hb _ _ _ _ => exact ⟨_, hb⟩

theorem synthExec_pass {consume : Bool} {nb : Blk} {s : Name} (hbr : nb.kind.isBranching = false)
    (hna : nb.kind ≠ .synthAssign) (hj : nb.jts = [s]) (val : Val) :
    synthExec consume nb val = .ok (val, some 0) := by
  refine (synthExec_plain hbr).mpr ⟨by rw [hj]; exact Nat.le_refl 1, ?_⟩
  rw [if_neg (by simpa using hna), hj]
  rfl

/-- a walk from a name that holds a synthetic block which only passes control on to `s` goes there next -/
theorem Adv.skip {H : Hier} {consume : Bool} {R k : Nat} {n s : Name} {val : Val} {r : WState}
    (h : Adv H consume R k n val r)
    (hnb : ∃ nb, H.get? n = some nb ∧ nb.isRegion = false ∧ nb.isOrig = false ∧
      nb.kind.isBranching = false ∧ nb.kind ≠ .synthAssign ∧ nb.jts = [s]) :
    ∃ k0, k = k0 + 1 ∧ Adv H consume R k0 s val r := by
  obtain ⟨nb, hg, hreg, hor, hbr, hna, hj⟩ := hnb
  cases h with
  | orig hb ho => rw [resolve_block_eq hg hreg hb, hor] at ho; cases ho
  | halt hb _ he => rw [resolve_block_eq hg hreg hb, synthExec_pass hbr hna hj] at he; cases he
  | next hb _ he ht hd =>
    obtain rfl := resolve_block_eq hg hreg hb
    rw [synthExec_pass hbr hna hj] at he
    cases he
    rw [hj] at ht
    cases ht
    exact ⟨_, rfl, hd⟩

theorem Adv.pos_R {H : Hier} {consume : Bool} {R k : Nat} {n : Name} {val : Val} {s : WState}
    (h : Adv H consume R k n val s) : 1 ≤ R := by
  obtain ⟨b, hb⟩ := h.resolved
  cases R with
  | succ R => exact Nat.succ_pos R
  | zero => cases hb

theorem Adv.skip_intro {H : Hier} {consume : Bool} {R k : Nat} {n s : Name} {val : Val} {r : WState}
    (hnb : ∃ nb, H.get? n = some nb ∧ nb.isRegion = false ∧ nb.isOrig = false ∧
      nb.kind.isBranching = false ∧ nb.kind ≠ .synthAssign ∧ nb.jts = [s])
    (h : Adv H consume R k s val r) : Adv H consume R (k + 1) n val r := by
  obtain ⟨nb, hg, hreg, hor, hbr, hna, hj⟩ := hnb
  obtain ⟨R, rfl⟩ := Nat.exists_eq_add_of_le' h.pos_R
  exact .next (resolve_block hg hreg R) hor (synthExec_pass hbr hna hj val) (by rw [hj]; rfl) h

/-- `Adv.next` read at `advF`; `hro` has the shape the test of `chainEnd` leaves behind. -/
theorem advF_next {H : Hier} {consume : Bool} {R : Nat} {n t : Name} {b : Blk} {i : Nat} {val val1 : Val}
    (hg : H.get? n = some b) (hro : ¬(b.isRegion || b.isOrig) = true)
    (he : synthExec consume b val = .ok (val1, some i)) (ht : b.jts[i]? = some t) (g : Nat) :
    advF H consume (R + 1) (g + 1) n val = advF H consume (R + 1) g t val1 := by
  rw [Bool.or_eq_true, not_or, Bool.not_eq_true, Bool.not_eq_true] at hro
  rw [advF]
  simp only [resolve_block hg hro.1 R, hro.2, he, ht, Bool.false_eq_true, if_false]

/-- `Adv.orig` and `Adv.halt` read at `advF`, for a block found by name -/
theorem advF_orig {H : Hier} {consume : Bool} {R : Nat} {n : Name} {b : Blk} (hg : H.get? n = some b)
    (ho : b.isOrig = true) (g : Nat) (val : Val) : advF H consume (R + 1) (g + 1) n val = .at b.name val := by
  rw [advF, resolve_block hg (isOrig_not ho).1 R]
  exact if_pos ho

theorem advF_halt {H : Hier} {consume : Bool} {R : Nat} {n : Name} {b : Blk} {val val1 : Val}
    (hg : H.get? n = some b) (hr : b.isRegion = false) (ho : b.isOrig = false)
    (he : synthExec consume b val = .ok (val1, none)) (g : Nat) : advF H consume (R + 1) (g + 1) n val = .halt := by
  rw [advF]
  simp only [resolve_block hg hr R, ho, he, Bool.false_eq_true, if_false]

theorem adv_fuel_mono {H : Hier} {consume : Bool} {R F R' F' : Nat} (hR : R ≤ R') (hF : F ≤ F')
    {n : Name} {val : Val} {s : WState} (h : advF H consume R F n val = s) (hs : s.isErr = false) :
    advF H consume R' F' n val = s := by
  obtain ⟨k, hk, hd⟩ := adv_of_advF h hs
  exact advF_of_adv (hd.mono_R hR) _ (Nat.lt_of_lt_of_le hk hF)

theorem advF_mono (H : Hier) (consume : Bool) (R : Nat) (f : Nat) (n : Name) (val : Val) (s : WState)
    (h : advF H consume R f n val = s) (hs : s.isErr = false) : advF H consume R (f + 1) n val = s :=
  adv_fuel_mono (Nat.le_refl _) (Nat.le_succ _) h hs

/-! ## Frame lemmas over one state space -/

/-- `runs_eq_of_clean` with an invariant `P` on the states that are compared -/
theorem runs_eq_of_clean_inv (A B : Sys WState) (P : WState → Prop)
    (key : ∀ s, P s → CleanRun B s → A.obs s = B.obs s ∧
      ∀ d, d < (B.obs s).arity → A.step s d = B.step s d ∧ P (B.step s d)) :
    ∀ (ds : List Nat) (s : WState), P s → CleanRun B s → run A s ds = run B s ds := by
  intro ds s hp hc
  refine runs_eq_of_sim A B (fun a b => a = b ∧ P b) ?_ ds s s ⟨rfl, hp⟩ hc
  rintro s _ ⟨rfl, hp⟩ hc
  exact key s hp hc

/-- **Frame lemma.** Two systems over walk states agree on every trace from a state from which `B` is
    error-free, if in every such state they observe the same and step the same. -/
theorem runs_eq_of_clean (A B : Sys WState)
    (key : ∀ s, CleanRun B s → A.obs s = B.obs s ∧ ∀ d, d < (B.obs s).arity → A.step s d = B.step s d) :
    ∀ (ds : List Nat) (s : WState), CleanRun B s → run A s ds = run B s ds :=
  fun ds s => runs_eq_of_clean_inv A B (fun _ => True)
    (fun s _ hc => ⟨(key s hc).1, fun d hd => ⟨(key s hc).2 d hd, trivial⟩⟩) ds s trivial

end Scfg.C01
