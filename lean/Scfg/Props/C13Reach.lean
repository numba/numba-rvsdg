import Scfg.Props.C13
/-!
# C13 — `is_reachable_dfs`: the model always answers (totality), hence `reachDfs_spec` is total
correctness

Measure: `|stack| + Σ_{members not yet seen} (|successors| + 1)`. Popping a seen name or a name
outside the graph shortens the stack; popping an unseen member pushes its successors but removes
its summand. The fuel `reachDfs` provides exceeds the initial value.
-/
namespace Scfg.C13
open Scfg.Model

/-- what is still to be paid for the members not seen so far -/
abbrev due (lvl : List Blk) (seen : List Name) : Nat :=
  pending Blk.name (fun b => b.jts.length + 1) seen lvl

/-- popping an unseen name pushes no more than it pays -/
theorem due_push (H : Hier) (c : Name) (seen : List Name) (blk : Name) (hs : seen.contains blk = false) :
    due (H.level c) (blk :: seen) + (succIn' H c blk).length ≤ due (H.level c) seen := by
  unfold succIn'
  cases hg : H.getIn? c blk with
  | none => exact pending_mono _ _ seen blk _
  | some b =>
    obtain ⟨hbm, rfl⟩ := getIn?_level hg
    have : due (H.level c) (b.name :: seen) + (b.jts.length + 1) ≤ due (H.level c) seen :=
      pending_take _ _ hs hbm rfl
    have := jt_length_le b
    simp only -- the `match` on `some b`
    omega

/-- `m seen`: what the loop still owes for the names not seen (`due`, with `due_push` as `hm`). -/
theorem reachGo_fuel {succ : Name → List Name} {m : List Name → Nat}
    (hm : ∀ seen blk, seen.contains blk = false → m (blk :: seen) + (succ blk).length ≤ m seen)
    {end_ : Name} {f : Nat} {stack seen : List Name} (h : stack.length + m seen < f) :
    ∃ r, reachGo succ end_ f stack seen = .ok r := by
  fun_induction reachGo succ end_ f stack seen with
  | case1 => omega -- out of fuel
  | case2 => exact ⟨false, rfl⟩ -- empty stack
  | case3 f blk stack seen _ ih => -- the top is already seen
    exact ih (by rw [List.length_cons] at h; omega)
  | case4 => exact ⟨true, rfl⟩ -- the top is `end_`
  | case5 f blk stack seen hs _ ih => -- the top is marked seen and its successors are pushed
    have := hm seen blk (Bool.eq_false_iff.mpr hs)
    rw [List.length_cons] at h
    exact ih (by rw [List.length_append, List.length_reverse]; omega)

theorem due_nil_le (lvl : List Blk) :
    due lvl [] ≤ (lvl.foldl (fun n x => n + x.jts.length) 0) + lvl.length := by
  have := pending_nil_le Blk.name (fun b => b.jts.length + 1) (u := fun b => b.jts.length) 1
    (fun _ => Nat.le_refl _) lvl 0
  rwa [Nat.zero_add, Nat.one_mul] at this

/-- **`is_reachable_dfs` (model) always answers** when `begin` is a block of the graph; with
    `reachDfs_spec` the answer is `true` exactly when a path of at least one arc exists. -/
theorem reachDfs_total (H : Hier) (c a b : Name) (blk : Blk) (ha : H.getIn? c a = some blk) :
    ∃ r, reachDfs H c a b = .ok r ∧ (r = true ↔ ReachS (succIn' H c) a b) := by
  have hex : ∃ r, reachDfs H c a b = .ok r := by
    rw [reachDfs_eq ha]
    refine reachGo_fuel (due_push H c) ?_
    have h1 := due_nil_le (H.level c)
    have h2 : (succIn' H c a).length ≤ blk.jts.length := by
      simp only [succIn', ha]
      exact jt_length_le blk
    rw [List.length_reverse]
    omega
  obtain ⟨r, hr⟩ := hex
  exact ⟨r, hr, reachDfs_spec H c a b r hr⟩

end Scfg.C13
