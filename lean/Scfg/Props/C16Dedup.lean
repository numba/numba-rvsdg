import Scfg.Props.C16Unique
/-!
# C16 / C17 — `dict(scfg)` loses nothing

The renderer builds `blocks = dict(scfg)` from the iterator; the model writes this as `dedup` of
the yielded names. `dedup_of_nodup`: on a duplicate-free list `dedup` is the identity, hence
(`iterAll_dict_identity`) on every hierarchy passing `uniqueB` the dictionary the renderer works
on has exactly the yielded names in the yielded order — no later duplicate silently overwrites an
earlier entry.
-/
namespace Scfg.C16
open Scfg.Model Scfg.Spec

theorem dedup_of_nodup : ∀ (xs : List Name), xs.Nodup → dedup xs = xs
  | [], _ => rfl
  | x :: xs, h => by
    rw [List.nodup_cons] at h
    rw [dedup, dedup_of_nodup xs h.2]
    congr 1
    rw [List.filter_eq_self]
    intro a ha
    simp only [bne_iff_ne, ne_eq]
    intro e
    exact h.1 (e ▸ ha)

theorem iterAll_dict_identity (H : Hier) (f : Nat) (h : uniqueB H f = true) (g : Nat) (c : Name)
    (out : List Name) (ho : iterAll H g c = .ok out) : dedup out = out :=
  dedup_of_nodup out (iterAll_nodup_of_uniqueB H f h g c out ho).1

example : dedup ["0", "loop_region_0", "1", "2"] = ["0", "loop_region_0", "1", "2"] :=
  dedup_of_nodup _ (by decide)

end Scfg.C16
