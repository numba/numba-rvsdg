import Scfg.Model.Ast2Cfg
import Scfg.Lemmas.WorkList
/-!
# C08 — "only unreachable blocks, no-op statements and empty blocks are pruned" (model, a priori)

The three pruning passes of `ASTCFG`, in the order in which the front end runs them.

* `pruneUnreachable_exact` — for every list of blocks with distinct names and at most two successors
  per block, the model of `prune_unreachable` keeps **exactly** the blocks reachable from the entry
  block `0`: no reachable block is dropped (the depth-first walk is a graph search, `go_search`, that
  provably finishes within its fuel: measure |stack| + Σ |successors of unvisited blocks|; `pruneUnreachable_reach` shows that the
  names need not be distinct) and every block kept is reachable.
* `pruneNoops_spec` — the model of `prune_noops` keeps every block, its name and successors, and
  removes exactly the statements `pass`, `break`, `continue` from it, order preserved.
* `pruneEmpty_distinct` — `prune_empty` (model `Scfg.Model.pruneEmpty`, compared block for block with
  `ASTCFG.prune_empty`) never makes the two targets of a branching block coincide (the defect repaired
  by bd9279f; a two-way block with identical successors is what `extract_region` / `find_head` assert
  against and what code generation emits twice).
* `pruneEmpty_closed` — "only … empty blocks are pruned" without leaving a dangling successor:
  if every target named a block before, every target names a block afterwards. The hypothesis
  `EmptyRanked` (chains of empty blocks are acyclic) is needed: with a cycle of empty blocks the
  code itself leaves a dangling name; every loop the front end builds has a test in its header.
* `front_end_prune_ok` — both, and that `prune_empty` does not abort, from the decidable `pruneHypOK`.

Every fact about `prune_empty` is an instance of `pruneEmpty_preserves` / `pruneEmpty_ok`: what every removal
the loop can perform keeps (`KeptByRemoval`), the loop keeps; `pruneStep_cases` says which removals those are.
-/
namespace Scfg.C08
open Scfg.Model Scfg.Py

/-- successors of the block called `n` (none if there is no such block) -/
def succOf (bs : List WBlock) (n : Nat) : List Nat :=
  ((bs.find? (·.name == n)).map (·.jts)).getD []

/-- reachable from the entry block `0` -/
inductive Reach (bs : List WBlock) : Nat → Prop
  | entry : Reach bs 0
  | step {n t} : Reach bs n → t ∈ succOf bs n → Reach bs t

/-- what is still to be paid for: the successors of every block not yet visited -/
abbrev owed (bs : List WBlock) (seen : List Nat) : Nat := pending WBlock.name (·.jts.length) seen bs

theorem succOf_cons (b : WBlock) (bs : List WBlock) (n : Nat) :
    succOf (b :: bs) n = if b.name == n then b.jts else succOf bs n := by
  simp only [succOf, List.find?_cons]
  cases (b.name == n) <;> simp

theorem succOf_none (bs : List WBlock) (n : Nat) (h : ∀ x ∈ bs, x.name ≠ n) : succOf bs n = [] := by
  rw [succOf, List.find?_eq_none.mpr fun x hx => by simpa using h x hx]
  rfl

/-- visiting a block pays for its successors -/
theorem owed_mark (bs : List WBlock) (seen : List Nat) (n : Nat) (hn : seen.contains n = false) :
    owed bs (n :: seen) + (succOf bs n).length ≤ owed bs seen := by
  unfold succOf
  cases hf : bs.find? (·.name == n) with
  | none => exact pending_mono _ _ seen n bs
  | some b => exact pending_take _ _ hn (find?_beq_some hf).1 (find?_beq_some hf).2

/-- the depth-first loop, for any successor function and any measure `m` of what is still to be
    paid for that visiting a node lowers by the number of its successors: with enough fuel it is a
    search that follows the successors, and it returns the nodes seen at the end -/
theorem go_search (succ : Nat → List Nat) (m : List Nat → Nat)
    (hm : ∀ seen n, seen.contains n = false → m (n :: seen) + (succ n).length ≤ m seen) :
    ∀ (f : Nat) (stack seen : List Nat), stack.length + m seen ≤ f →
      ∃ vis : List (Nat × List Nat × Unit), Search id (fun n new _ => new = succ n) stack seen vis ∧
        pruneUnreachable.go succ f stack seen = (vis.map (·.1)).reverse ++ seen := by
  intro f stack seen
  fun_induction pruneUnreachable.go succ f stack seen with
  | case1 stack seen => -- no fuel: the stack is empty
    intro hfuel
    obtain rfl : stack = [] := List.eq_nil_of_length_eq_zero (by omega)
    exact ⟨[], .done, rfl⟩
  | case2 => exact fun _ => ⟨[], .done, rfl⟩
  | case3 f n rest seen hsn ih => -- `n` was visited before
    intro hfuel
    rw [List.length_cons] at hfuel
    obtain ⟨vis, hs, e⟩ := ih (by omega)
    exact ⟨vis, .skip (List.contains_iff_mem.mp hsn) hs, e⟩
  | case4 f n rest seen hsn ih => -- `n` is visited now: its successors go on the stack and are paid for
    intro hfuel
    rw [List.length_cons] at hfuel
    have hmark := hm seen n (Bool.not_eq_true _ ▸ hsn)
    obtain ⟨vis, hs, e⟩ := ih (by rw [List.length_append]; omega)
    refine ⟨(n, succ n, ()) :: vis, .visit (fun h => hsn (List.contains_iff_mem.mpr h)) rfl
      (fun _ => List.mem_append) hs, ?_⟩
    rw [List.map_cons, List.reverse_cons, List.append_assoc]; exact e

/-- `prune_unreachable` keeps exactly the reachable blocks (names need not be distinct: the walk
    and `Reach` both follow the first block of a name). -/
theorem pruneUnreachable_reach (bs : List WBlock) (h2 : ∀ b ∈ bs, b.jts.length ≤ 2) :
    ∀ b, b ∈ pruneUnreachable bs ↔ b ∈ bs ∧ Reach bs b.name := by
  intro b
  have hfuel : [0].length + owed bs [] ≤ bs.length * 3 + 4 := by
    have : owed bs [] ≤ 2 * bs.length := pending_le _ _ [] h2
    rw [List.length_singleton]; omega
  obtain ⟨vis, hs, hgo⟩ := go_search (succOf bs) (owed bs) (owed_mark bs) _ [0] [] hfuel
  obtain ⟨hvis, -, hq, hnew⟩ := hs.spec_nil (Reach bs) (fun n new _ hn hv t ht => Reach.step hn (hv ▸ ht))
    fun x hx => List.mem_singleton.mp hx ▸ Reach.entry
  have hall : ∀ n, Reach bs n → ∃ t ∈ vis, t.1 = n := by
    intro n hn
    induction hn with
    | entry => exact hq 0 List.mem_cons_self
    | step _ ht ih =>
      obtain ⟨t, htv, rfl⟩ := ih
      exact hnew t htv _ ((hvis t htv).2 ▸ ht)
  refine List.mem_filter.trans (and_congr_right fun _ => List.contains_iff_mem.trans ?_)
  show b.name ∈ pruneUnreachable.go (succOf bs) _ [0] [] ↔ _
  rw [hgo, List.append_nil, List.mem_reverse, List.mem_map]
  exact ⟨fun ⟨t, htv, e⟩ => e ▸ (hvis t htv).1, hall _⟩

theorem pruneUnreachable_exact (bs : List WBlock) (hnd : (bs.map (·.name)).Nodup)
    (h2 : ∀ b ∈ bs, b.jts.length ≤ 2) :
    ∀ b, b ∈ pruneUnreachable bs ↔ b ∈ bs ∧ Reach bs b.name :=
  pruneUnreachable_reach bs h2

/-- **`prune_noops` removes exactly `pass`, `break`, `continue`** and nothing else. -/
theorem pruneNoops_spec (bs : List WBlock) :
    (pruneNoops bs).length = bs.length ∧
    ∀ i (hi : i < bs.length),
      ((pruneNoops bs)[i]'(by simp [pruneNoops]; exact hi)).name = bs[i].name ∧
      ((pruneNoops bs)[i]'(by simp [pruneNoops]; exact hi)).jts = bs[i].jts ∧
      ((pruneNoops bs)[i]'(by simp [pruneNoops]; exact hi)).instrs = bs[i].instrs.filter (fun x => !isNoop x) := by
  refine ⟨by simp [pruneNoops], fun i hi => ?_⟩
  simp [pruneNoops]

/-! Non-vacuity: block 2 is unreachable and pruned; 0 and 1 stay. -/
example : (pruneUnreachable [{ name := 0, jts := [1] }, { name := 1 }, { name := 2, jts := [1] }]).map (·.name) = [0, 1] := by
  decide +kernel

/-! ## `prune_empty` -/

def distinctTargets (bs : List WBlock) : Prop :=
  ∀ x ∈ bs, ∀ t u, x.jts = [t, u] → t ≠ u

/-- Every target names a block of the list (a `Prop`, despite the name; its decider is the model's `closedBB`). -/
def closedB (bs : List WBlock) : Prop :=
  ∀ x ∈ bs, ∀ t ∈ x.jts, ∃ y ∈ bs, y.name = t

/-- At most two targets per block (what `prune_empty` knows how to rewire). -/
def arity2 (bs : List WBlock) : Prop := ∀ x ∈ bs, x.jts.length ≤ 2

/-- Chains of empty blocks are acyclic: `r` strictly decreases from an empty block to its first
    target whenever that target is (the name of) an empty block too. -/
def EmptyRanked (r : Nat → Nat) (bs : List WBlock) : Prop :=
  ∀ x ∈ bs, x.instrs = [] → ∀ it rest, x.jts = it :: rest →
    (∃ y ∈ bs, y.name = it ∧ y.instrs = []) → r it < r x.name

def PruneInv (r : Nat → Nat) (bs : List WBlock) : Prop :=
  closedB bs ∧ arity2 bs ∧ EmptyRanked r bs

/-- Every empty block has a target (`prune_empty` indexes `jump_targets[0]`). -/
def HasTargets (bs : List WBlock) : Prop := ∀ x ∈ bs, x.instrs = [] → x.jts ≠ []

theorem isEmpty_false_of_ne {α} {l : List α} (h : (!l.isEmpty) = false) : l = [] := by
  cases l <;> simp_all

/-- The rewiring loop of `prune_empty` on one block; like the code it leaves a block with more than two
    targets alone. -/
def rew (name it : Nat) (x : WBlock) : WBlock :=
  match x.jts with
  | [t] => if t == name then { x with jts := [it] } else x
  | [t, u] => { x with jts := [if t == name then it else t, if u == name then it else u] }
  | _ => x

/-- Removing `name` would make the two targets of a branching block coincide. -/
def coincides (cur : List WBlock) (name it : Nat) : Bool :=
  cur.any fun x => match x.jts with
    | [t, u] => t != u && ((t == name && u == it) || (t == it && u == name))
    | _ => false

def removeBlock (cur : List WBlock) (name it : Nat) : List WBlock :=
  (cur.filter (·.name != name)).map (rew name it)

/-- One step of the pruning loop, as a function (the body of the `foldlM` in `pruneEmpty`). -/
def pruneStep (entry : Nat) (cur : List WBlock) (name : Nat) : Except String (List WBlock) :=
  match cur.find? (·.name == name) with
  | none => .ok cur
  | some b =>
    if !b.instrs.isEmpty then .ok cur
    else match b.jts with
      | [] => .error "IndexError:prune_empty"
      | it :: _ =>
        if name == entry && cur.any (fun x => x.name != name && x.jts.contains it) then .ok cur
        else if coincides cur name it then .ok cur
        else .ok (removeBlock cur name it)

theorem pruneEmpty_eq (bs : List WBlock) :
    pruneEmpty bs = (bs.map (·.name)).foldlM (pruneStep ((bs.head?.map (·.name)).getD 0)) bs := rfl

theorem pruneStep_cases (entry : Nat) (cur : List WBlock) (name : Nat) :
    pruneStep entry cur name = .ok cur ∨
    ∃ b ∈ cur, b.name = name ∧ b.instrs = [] ∧
      (b.jts = [] ∧ pruneStep entry cur name = .error "IndexError:prune_empty" ∨
        ∃ it rest, b.jts = it :: rest ∧ coincides cur name it = false ∧
          pruneStep entry cur name = .ok (removeBlock cur name it)) := by
  fun_cases pruneStep entry cur name with
  | case3 b hf he hj => -- an empty block without a target
    exact .inr ⟨b, (find?_beq_some hf).1, (find?_beq_some hf).2,
      isEmpty_false_of_ne (Bool.not_eq_true _ ▸ he), .inl ⟨hj, rfl⟩⟩
  | case6 b hf he it rest hj _ h2 => -- an empty block that goes
    exact .inr ⟨b, (find?_beq_some hf).1, (find?_beq_some hf).2,
      isEmpty_false_of_ne (Bool.not_eq_true _ ▸ he), .inr ⟨it, rest, hj, Bool.eq_false_iff.2 h2, rfl⟩⟩
  | _ => exact .inl rfl -- no such block, a block with statements, or a block one of the two guards keeps

/-- `P` survives every removal the loop can perform: that of an empty block `b` in favour of its
    first target `it`, when this makes no two targets coincide. -/
def KeptByRemoval (P : List WBlock → Prop) : Prop :=
  ∀ cur, P cur → ∀ b ∈ cur, b.instrs = [] → ∀ it rest, b.jts = it :: rest →
    coincides cur b.name it = false → P (removeBlock cur b.name it)

theorem KeptByRemoval.and {P Q : List WBlock → Prop} (hP : KeptByRemoval P) (hQ : KeptByRemoval Q) :
    KeptByRemoval fun cur => P cur ∧ Q cur :=
  fun cur hc b hb he it rest hj hg =>
    ⟨hP cur hc.1 b hb he it rest hj hg, hQ cur hc.2 b hb he it rest hj hg⟩

theorem pruneStep_preserves {P : List WBlock → Prop} (hrem : KeptByRemoval P) {entry : Nat}
    {cur : List WBlock} {name : Nat} {out : List WBlock} (hP : P cur)
    (h : pruneStep entry cur name = .ok out) : P out := by
  rcases pruneStep_cases entry cur name with h' | ⟨b, hb, rfl, he, ⟨_, h'⟩ | ⟨it, rest, hj, hg, h'⟩⟩
  · cases h.symm.trans h'; exact hP
  · cases h.symm.trans h'
  · cases h.symm.trans h'; exact hrem cur hP b hb he it rest hj hg

theorem pruneStep_ok (entry : Nat) {cur : List WBlock} (name : Nat) (ht : HasTargets cur) :
    ∃ out, pruneStep entry cur name = .ok out := by
  rcases pruneStep_cases entry cur name with h | ⟨b, hb, _, he, ⟨hj, _⟩ | ⟨it, rest, _, _, h⟩⟩
  · exact ⟨_, h⟩
  · exact absurd hj (ht b hb he)
  · exact ⟨_, h⟩

theorem pruneEmpty_preserves {P : List WBlock → Prop} (hrem : KeptByRemoval P)
    {bs out : List WBlock} (hP : P bs) (h : pruneEmpty bs = .ok out) : P out :=
  foldlM_inv (I := P) (fun _ _ _ hc hs => pruneStep_preserves hrem hc hs) _ _ _ hP
    (pruneEmpty_eq bs ▸ h)

theorem pruneEmpty_ok {P : List WBlock → Prop} (hrem : KeptByRemoval P)
    (ht : ∀ cur, P cur → HasTargets cur) {bs : List WBlock} (hP : P bs) :
    ∃ out, pruneEmpty bs = .ok out ∧ P out :=
  foldlM_ok (I := P) (fun cur name hc =>
    have ⟨out, ho⟩ := pruneStep_ok _ name (ht cur hc)
    ⟨out, ho, pruneStep_preserves hrem hc ho⟩) _ bs hP

theorem rew_eq (name it : Nat) (x : WBlock) :
    rew name it x = { x with jts :=
      if x.jts.length ≤ 2 then x.jts.map fun t => if t = name then it else t else x.jts } := by
  obtain ⟨n, is, js⟩ := x
  rcases js with _ | ⟨t, _ | ⟨u, _ | ⟨v, l⟩⟩⟩
  · rfl
  · by_cases h : t = name <;> simp [rew, h]
  · simp [rew]
  · simp [rew]

theorem rew_name (name it : Nat) (x : WBlock) : (rew name it x).name = x.name := by rw [rew_eq]
theorem rew_instrs (name it : Nat) (x : WBlock) : (rew name it x).instrs = x.instrs := by rw [rew_eq]

theorem rew_jts {name it : Nat} {x : WBlock} (h : x.jts.length ≤ 2) :
    (rew name it x).jts = x.jts.map fun t => if t = name then it else t := by
  rw [rew_eq]; exact if_pos h

theorem rew_length (name it : Nat) (x : WBlock) : (rew name it x).jts.length = x.jts.length := by
  rw [rew_eq]; split
  · exact List.length_map _
  · rfl

theorem mem_removeBlock {cur : List WBlock} {name it : Nat} {z : WBlock} :
    z ∈ removeBlock cur name it ↔ ∃ x ∈ cur, x.name ≠ name ∧ rew name it x = z := by
  unfold removeBlock
  simp only [List.mem_map, List.mem_filter, bne_iff_ne, and_assoc]

theorem coincides_false {cur : List WBlock} {name it : Nat} (hg : coincides cur name it = false)
    {x : WBlock} (hx : x ∈ cur) {t u : Nat} (hxj : x.jts = [t, u]) (htu : t ≠ u) :
    ¬ (t = name ∧ u = it) ∧ ¬ (t = it ∧ u = name) := by
  have := List.any_eq_false.1 hg x hx
  rw [hxj] at this
  simpa [htu] using this

theorem removeBlock_distinct : KeptByRemoval distinctTargets := by
  intro cur hd b _ _ it _ _ hg z hz t' u' hzj heq
  obtain ⟨x, hx, _, rfl⟩ := mem_removeBlock.1 hz
  have hl : x.jts.length = 2 := by rw [← rew_length b.name it, hzj]; rfl
  rw [rew_jts (Nat.le_of_eq hl)] at hzj
  match hxj : x.jts, hl with
  | [t, u], _ =>
    have htu := hd x hx t u hxj
    have hno := coincides_false hg hx hxj htu
    rw [hxj] at hzj
    obtain ⟨rfl, rfl⟩ : (if t = b.name then it else t) = t' ∧ (if u = b.name then it else u) = u' := by
      simpa using hzj
    -- equal after the substitution, different before: one is `b.name` and the other `it`
    by_cases h1 : t = b.name
    · by_cases h2 : u = b.name
      · exact htu (h1.trans h2.symm)
      · rw [if_pos h1, if_neg h2] at heq; exact hno.1 ⟨h1, heq.symm⟩
    · by_cases h2 : u = b.name
      · rw [if_neg h1, if_pos h2] at heq; exact hno.2 ⟨heq, h2⟩
      · rw [if_neg h1, if_neg h2] at heq; exact htu heq

theorem removeBlock_hasTargets : KeptByRemoval HasTargets := by
  intro cur ht b _ _ it _ _ _ z hz hze hzj
  obtain ⟨x, hx, _, rfl⟩ := mem_removeBlock.1 hz
  rw [rew_instrs] at hze
  have hl := rew_length b.name it x
  rw [hzj] at hl
  exact ht x hx hze (List.eq_nil_of_length_eq_zero hl.symm)

theorem removeBlock_pruneInv (r : Nat → Nat) : KeptByRemoval (PruneInv r) := by
  intro cur ⟨hc, ha, hr⟩ b hb hbe it rest hbj _
  -- the removed block does not target itself
  have hne : it ≠ b.name := by
    intro heq
    have := hr b hb hbe it rest hbj ⟨b, hb, heq.symm, hbe⟩
    rw [heq] at this; exact Nat.lt_irrefl _ this
  -- a block of `cur` with another name survives, rewired, under its name
  have named : ∀ t, t ≠ b.name → (∃ y ∈ cur, y.name = t) →
      ∃ y ∈ removeBlock cur b.name it, y.name = t :=
    fun t ht ⟨y, hy, hyn⟩ =>
      ⟨rew b.name it y, mem_removeBlock.2 ⟨y, hy, hyn ▸ ht, rfl⟩, by rw [rew_name, hyn]⟩
  refine ⟨?_, ?_, ?_⟩
  · intro z hz t' ht'
    obtain ⟨x, hx, _, rfl⟩ := mem_removeBlock.1 hz
    rw [rew_jts (ha x hx)] at ht'
    obtain ⟨t, ht, rfl⟩ := List.mem_map.1 ht'
    by_cases h : t = b.name
    · -- `it` stands in place of the removed block
      rw [if_pos h]; exact named it hne (hc b hb it (hbj ▸ List.mem_cons_self))
    · rw [if_neg h]; exact named t h (hc x hx t ht)
  · intro z hz
    obtain ⟨x, hx, _, rfl⟩ := mem_removeBlock.1 hz
    rw [rew_length]; exact ha x hx
  · intro z hz hze it' rest' hzj ⟨y', hy', hy'n, hy'e⟩
    obtain ⟨x, hx, _, rfl⟩ := mem_removeBlock.1 hz
    obtain ⟨y, hy, _, rfl⟩ := mem_removeBlock.1 hy'
    rw [rew_instrs] at hze hy'e
    rw [rew_name] at hy'n ⊢
    rw [rew_jts (ha x hx)] at hzj
    obtain ⟨hd, rest0, hxj, rfl, _⟩ := List.map_eq_cons_iff.1 hzj
    by_cases hh : hd = b.name
    · -- x → b → it : two strict decreases
      rw [if_pos hh] at hy'n ⊢
      have h1 : r b.name < r x.name := hh ▸ hr x hx hze hd rest0 hxj ⟨b, hb, hh.symm, hbe⟩
      have h2 : r it < r b.name := hr b hb hbe it rest hbj ⟨y, hy, hy'n, hy'e⟩
      exact Nat.lt_trans h2 h1
    · rw [if_neg hh] at hy'n ⊢
      exact hr x hx hze hd rest0 hxj ⟨y, hy, hy'n, hy'e⟩

/-- **`prune_empty` never makes the two targets of a branching block coincide.** -/
theorem pruneEmpty_distinct (bs out : List WBlock) (hd : distinctTargets bs)
    (h : pruneEmpty bs = .ok out) : distinctTargets out :=
  pruneEmpty_preserves removeBlock_distinct hd h

/-- **No dangling successor after pruning**: if every target named a block, blocks have at most
    two targets and chains of empty blocks are acyclic, then after `prune_empty` every target still
    names a block (and blocks still have at most two targets). -/
theorem pruneEmpty_closed (r : Nat → Nat) (bs out : List WBlock) (hi : PruneInv r bs)
    (h : pruneEmpty bs = .ok out) : closedB out ∧ arity2 out :=
  have := pruneEmpty_preserves (removeBlock_pruneInv r) hi h
  ⟨this.1, this.2.1⟩

theorem distinctTargetsB_sound {bs : List WBlock} (h : distinctTargetsB bs = true) :
    distinctTargets bs := by
  intro x hx t u hj
  have := List.all_eq_true.1 h x hx
  rw [hj] at this
  simpa using this

theorem closedBB_sound {bs : List WBlock} (h : closedBB bs = true) : closedB bs := by
  intro x hx t ht
  have := List.all_eq_true.1 (List.all_eq_true.1 h x hx) t ht
  obtain ⟨y, hy, hyn⟩ := List.any_eq_true.1 this
  exact ⟨y, hy, by simpa using hyn⟩

theorem arity2B_sound {bs : List WBlock} (h : arity2B bs = true) : arity2 bs := by
  intro x hx
  simpa using List.all_eq_true.1 h x hx

theorem emptyRankedB_sound {r : Nat → Nat} {bs : List WBlock} (h : emptyRankedB r bs = true) :
    EmptyRanked r bs := by
  intro x hx hxe it rest hj ⟨y, hy, hyn, hye⟩
  have := List.all_eq_true.1 h x hx
  rw [hj, hxe] at this
  simp only [List.isEmpty_nil, Bool.not_true, Bool.false_or, Bool.or_eq_true, Bool.not_eq_true',
    decide_eq_true_eq] at this
  rcases this with hno | hlt
  · have hany : (bs.any fun y => y.name == it && y.instrs.isEmpty) = true :=
      List.any_eq_true.2 ⟨y, hy, by simp [hyn, hye]⟩
    rw [hany] at hno; cases hno
  · exact hlt

theorem emptiesHaveTargetB_sound {bs : List WBlock} (h : emptiesHaveTargetB bs = true) :
    HasTargets bs := by
  intro x hx hxe hj
  have := List.all_eq_true.1 h x hx
  rw [hxe, hj] at this
  simp at this

/-- **Pruning of empty blocks, for every block list that passes the (decidable) hypotheses.** The harness
    evaluates `pruneHypOK` on the block list the model hands to `pruneEmpty` for every generated program. -/
theorem front_end_prune_ok (bs : List WBlock) (h : pruneHypOK bs = true) :
    ∃ out, pruneEmpty bs = .ok out ∧ closedB out ∧ arity2 out ∧ distinctTargets out := by
  simp only [pruneHypOK, Bool.and_eq_true] at h
  obtain ⟨⟨⟨⟨hd, hc⟩, ha⟩, hr⟩, ht⟩ := h
  obtain ⟨out, ho, ⟨hi, hd'⟩, _⟩ := pruneEmpty_ok
    (((removeBlock_pruneInv (rankOf bs)).and removeBlock_distinct).and removeBlock_hasTargets)
    (fun _ hc => hc.2)
    ⟨⟨⟨closedBB_sound hc, arity2B_sound ha, emptyRankedB_sound hr⟩, distinctTargetsB_sound hd⟩,
      emptiesHaveTargetB_sound ht⟩
  exact ⟨out, ho, hi.1, hi.2.1, hd'⟩

/-! Non-vacuity: `if x: pass else: pass; return` as the front end builds it (test block 0, two
empty arms 1 and 2, join 3). The hypotheses hold, the branch keeps two distinct targets and every
target names a block. -/
def pruneDemo : List WBlock :=
  [{ name := 0, instrs := [.e (.leaf 1 ["x"])], jts := [1, 2] }, { name := 1, jts := [3] },
   { name := 2, jts := [3] }, { name := 3, instrs := [.s (.ret (.cst Cst.none))] }]

example : (pruneEmpty pruneDemo).toOption.map (·.map fun b => (b.name, b.jts))
    = some [(0, [3, 2]), (2, [3]), (3, [])] := by decide +kernel

example : PruneInv (fun n => 10 - n) pruneDemo ∧ distinctTargets pruneDemo :=
  ⟨⟨closedBB_sound (by decide), arity2B_sound (by decide), emptyRankedB_sound (by decide)⟩,
    distinctTargetsB_sound (by decide)⟩

example : pruneHypOK pruneDemo = true := by decide +kernel

end Scfg.C08
