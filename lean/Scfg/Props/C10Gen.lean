import Scfg.Model.Cfg2Ast
import Scfg.Lemmas.Hier
/-!
# C10, hygiene — what the model of the code generator can emit (a priori)

`codegen_gen`: whenever the model of `SCFG2ASTTransformer.codegen` answers — for **every**
hierarchy, payload and nesting depth — each statement it emits is, at every nesting level of the
emitted `if` / `while` statements, of one of the shapes of `Gen`:

* a statement (or expression statement) of some original block's payload,
* `__scfg_return_value__ = <expr>` or `return __scfg_return_value__`; the model assigns the value of
  the payload's final `return`, but `Gen.retAsg` admits any expression,
* `<v> = <int>` for an entry `(v, int)` of the `asg` list of some block of the hierarchy; the model
  emits these for synthetic assignment blocks only, but `Gen.asg` does not ask for the kind,
* `__scfg_loop_cont_<k>__ = True`, `while __scfg_loop_cont_<k>__: …`, `__scfg_loop_cont_<k>__ = not <var>`,
* `pass`, or an `if` (with any test) whose arms are again of these shapes.

Hence (`introduced_reserved`) the only names the generator itself binds are the return-value
variable, the loop-continuation variables and the variables in the `asg` lists of the hierarchy's
blocks; all of them start with `__scfg_` as soon as the latter do (they come from
`NameGenerator.new_var_name`, C18).
-/
namespace Scfg.C10
open Scfg.Model Scfg.Py

inductive Gen (H : Hier) (pay : Payload) : S → Prop
  | payload {n i} : i ∈ pay.get n → Gen H pay (instrToS i)
  | retAsg {v} : Gen H pay (.assign retVar v)
  | retStmt : Gen H pay (.ret (.var retVar))
  | asg {b p} : b ∈ H → p ∈ b.asg → Gen H pay (.assign p.1 (.cst (Cst.int p.2)))
  | contInit {k} : Gen H pay (.assign (contVar k) (.cst Cst.tt))
  | loop {k body} : (∀ s ∈ body, Gen H pay s) → Gen H pay (.whileS (.var (contVar k)) body [])
  | latch {k v} : Gen H pay (.assign (contVar k) (.notE (.var v)))
  | pass : Gen H pay .pass
  | ifS {t body orelse} : (∀ s ∈ body, Gen H pay s) → (∀ s ∈ orelse, Gen H pay s) →
      Gen H pay (.ifS t body orelse)

theorem lookupScoped_mem {H : Hier} {n : Name} {b : Blk} {stack : List Name}
    (h : lookupScoped H stack n = .ok b) : b ∈ H := by
  fun_induction lookupScoped H stack n with
  | case1 => cases h -- no level left
  | case2 _ _ _ _ hx => cases h; exact (getIn?_mem hx).1 -- found at this level
  | case3 _ _ _ _ ih => exact ih h -- look further out

/-- the three mutually recursive functions, together, by induction on the fuel -/
theorem codegen_all (H : Hier) (pay : Payload) : ∀ f : Nat,
    (∀ {cg b ss cg'}, b ∈ H → codegenBlk H pay f cg b = .ok (ss, cg') → ∀ s ∈ ss, Gen H pay s) ∧
    (∀ {cg b ts ss cg'}, cascade H pay f cg b ts = .ok (ss, cg') → ∀ s ∈ ss, Gen H pay s) ∧
    (∀ {cg c ss cg'}, codegenView H pay f cg c = .ok (ss, cg') → ∀ s ∈ ss, Gen H pay s) := by
  intro f
  induction f with
  | zero => exact ⟨fun _ h => (nomatch h), fun h => (nomatch h), fun h => (nomatch h)⟩
  | succ f ih =>
    obtain ⟨ihB, ihC, ihV⟩ := ih
    -- what is generated for a block that the scoped lookup finds
    have ihL : ∀ {cg stack n t ss cg'}, lookupScoped H stack n = .ok t →
        codegenBlk H pay f cg t = .ok (ss, cg') → ∀ s ∈ ss, Gen H pay s :=
      fun h0 h1 => ihB (lookupScoped_mem h0) h1
    -- the payload of an AST block, and the payload without its last statement, emitted as they are
    have hall : ∀ (b : Blk), ∀ s ∈ (pay.get b.name).map instrToS, Gen H pay s :=
      fun b => List.forall_mem_map.mpr fun i hi => Gen.payload hi
    have hinit : ∀ (b : Blk), ∀ s ∈ (pay.get b.name).dropLast.map instrToS, Gen H pay s :=
      fun b => List.forall_mem_map.mpr fun i hi => Gen.payload (List.dropLast_subset _ hi)
    refine ⟨?_, ?_, ?_⟩
    · intro cg b
      -- `fun_cases` wants the fuel as a variable; `hg` says which it is where the induction hypothesis is used
      generalize hg : f + 1 = g
      fun_cases codegenBlk H pay g cg b with
      | case3 => -- an AST block with two successors: an `if` after all but the last statement
        intro ss cg' _ h
        cases hg
        obtain ⟨t0, h0, h⟩ := bind_eq_ok h
        obtain ⟨⟨body, cg1⟩, h1, h⟩ := bind_eq_ok h
        obtain ⟨t1, h2, h⟩ := bind_eq_ok h
        obtain ⟨⟨orelse, cg3⟩, h3, h⟩ := bind_eq_ok h
        cases h
        exact List.forall_mem_append.mpr
          ⟨hinit b, List.forall_mem_singleton.mpr (Gen.ifS (ihL h0 h1) (ihL h2 h3))⟩
      | case4 => -- one successor, a final `return v`: it becomes an assignment
        intro ss cg' _ h
        cases h
        exact List.forall_mem_append.mpr ⟨hinit b, List.forall_mem_singleton.mpr Gen.retAsg⟩
      | case5 | case6 => -- one successor or none: the payload as it is
        intro ss cg' _ h; cases h; exact hall b
      | case8 => -- a head, tail or branch region: its level
        intro ss cg' _ h
        cases hg
        obtain ⟨⟨body, cg2⟩, hv, h⟩ := bind_eq_ok h
        cases h
        exact ihV hv
      | case9 => -- a loop region: its level inside a `while`
        intro ss cg' _ h
        cases hg
        obtain ⟨⟨body, cg2⟩, hv, h⟩ := bind_eq_ok h
        cases h
        exact List.forall_mem_cons.mpr
          ⟨Gen.contInit, List.forall_mem_singleton.mpr (Gen.loop (ihV hv))⟩
      | case11 => -- synthAssign
        intro ss cg' hb h
        cases h
        exact List.forall_mem_map.mpr fun p hp => Gen.asg hb hp
      | case12 => -- synthTail
        intro ss cg' _ h; cases h; exact fun s hs => nomatch hs
      | case13 => -- synthFill
        intro ss cg' _ h; cases h; exact List.forall_mem_singleton.mpr Gen.pass
      | case14 => -- synthReturn
        intro ss cg' _ h; cases h; exact List.forall_mem_singleton.mpr Gen.retStmt
      | case16 => -- synthLatch
        intro ss cg' _ h; cases h; exact List.forall_mem_singleton.mpr Gen.latch
      | case17 | case18 => -- synthExitBranch, synthHead: the cascade over the targets
        intro ss cg' _ h; cases hg; exact ihC h
      | _ => intro ss cg' _ h; cases h -- the branches that raise
    · intro cg b ts
      generalize hg : f + 1 = g
      fun_cases cascade H pay g cg b ts with
      | case3 => -- the last target: its block
        intro ss cg' h
        cases hg
        obtain ⟨tb, h0, h⟩ := bind_eq_ok h
        exact ihL h0 h
      | case4 => -- a target before the last: an `if` with the rest of the cascade as `else`
        intro ss cg' h
        cases hg
        obtain ⟨tb, h0, h⟩ := bind_eq_ok h
        obtain ⟨⟨body, cg1⟩, h1, h⟩ := bind_eq_ok h
        obtain ⟨⟨orelse, cg2⟩, h2, h⟩ := bind_eq_ok h
        cases h
        exact List.forall_mem_singleton.mpr (Gen.ifS (ihL h0 h1) (ihC h2))
      | _ => intro ss cg' h; cases h -- no fuel, no target
    · intro cg c ss cg' h
      obtain ⟨names, -, h⟩ := bind_eq_ok h
      -- the loop over the level keeps "everything emitted so far is `Gen`"
      refine foldlM_inv (I := fun acc => ∀ s ∈ acc.1, Gen H pay s) ?_ names _ _
        (fun s hs => absurd hs List.not_mem_nil) h
      intro acc n acc' hacc hstep
      obtain ⟨b, hg, hstep⟩ := bind_eq_ok hstep
      split at hstep
      · cases hstep; exact hacc
      · obtain ⟨⟨ss1, cg1⟩, hb, hstep⟩ := bind_eq_ok hstep
        cases hstep
        exact List.forall_mem_append.mpr ⟨hacc, ihB (getIn?_mem (getIn_eq_ok.mp hg)).1 hb⟩

/-- **What the generator can emit** (model, every hierarchy and payload). -/
theorem codegen_gen (H : Hier) (top : Name) (pay : Payload) (out : List S)
    (h : codegenTop H top pay = .ok out) : ∀ s ∈ out, Gen H pay s := by
  obtain ⟨⟨body, cg⟩, hv, h⟩ := bind_eq_ok h
  cases h
  exact (codegen_all H pay _).2.2 hv

/-- the names a statement binds by plain assignment, at any depth -/
def binds : S → List Name
  | .assign x _ => [x]
  | .ifS _ b o => bindsL b ++ bindsL o
  | .whileS _ b o => bindsL b ++ bindsL o
  | .forS _ x _ b o => x :: (bindsL b ++ bindsL o)
  | _ => []
where bindsL : List S → List Name
  | [] => []
  | s :: ss => binds s ++ bindsL ss

theorem forall_bindsL {P : Name → Prop} {ss : List S} :
    (∀ x ∈ binds.bindsL ss, P x) ↔ ∀ s ∈ ss, ∀ x ∈ binds s, P x := by
  induction ss with
  | nil => simp [binds.bindsL]
  | cons s ss ih => rw [List.forall_mem_cons, ← ih]; exact List.forall_mem_append

def Reserved (H : Hier) (x : Name) : Prop :=
  x = retVar ∨ (∃ k, x = contVar k) ∨ ∃ b ∈ H, ∃ p ∈ b.asg, x = p.1

/-- **Hygiene.** Every name bound by an emitted statement is bound by a statement of an original
    block's payload, or is reserved. -/
theorem introduced_reserved (H : Hier) (pay : Payload) (s : S) (h : Gen H pay s) :
    ∀ x ∈ binds s, Reserved H x ∨ ∃ n i, i ∈ pay.get n ∧ x ∈ binds (instrToS i) := by
  induction h with
  | payload hi => exact fun x hx => Or.inr ⟨_, _, hi, hx⟩
  | retAsg => exact fun x hx => Or.inl (Or.inl (List.mem_singleton.mp hx))
  | retStmt => exact fun x hx => nomatch hx
  | asg hb hp => exact fun x hx => Or.inl (Or.inr (Or.inr ⟨_, hb, _, hp, List.mem_singleton.mp hx⟩))
  | contInit => exact fun x hx => Or.inl (Or.inr (Or.inl ⟨_, List.mem_singleton.mp hx⟩))
  | loop _ ih => exact List.forall_mem_append.mpr ⟨forall_bindsL.mpr ih, fun x hx => nomatch hx⟩
  | latch => exact fun x hx => Or.inl (Or.inr (Or.inl ⟨_, List.mem_singleton.mp hx⟩))
  | pass => exact fun x hx => nomatch hx
  | ifS _ _ ih1 ih2 => exact List.forall_mem_append.mpr ⟨forall_bindsL.mpr ih1, forall_bindsL.mpr ih2⟩

/-- the generator's own variables lie in the reserved `__scfg_` namespace -/
theorem retVar_prefix : ∃ r, retVar = "__scfg_" ++ r := ⟨"return_value__", by simp [retVar]⟩
theorem contVar_prefix (k : Int) : ∃ r, contVar k = "__scfg_" ++ r := by
  refine ⟨"loop_cont_" ++ toString k ++ "__", ?_⟩
  unfold contVar
  have h : ("__scfg_loop_cont_" : String) = "__scfg_" ++ "loop_cont_" := by simp
  rw [h]
  simp only [String.append_assoc]

end Scfg.C10
