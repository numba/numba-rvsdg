import Scfg.Lemmas.Hier
/-!
# C13 — `find_exiting_and_exits`, and the direct arm of `find_headers_and_entries`, are their
specifications (model level, all hierarchies)

`exitingExits H c sub` models `SCFG.find_exiting_and_exits(sub)` on the graph of container `c`
(compared with the code on every run). Whenever it returns `(exiting, exits)`:

* `n ∈ exiting` iff `n ∈ sub` and the block `n` has no target or a target outside `sub`;
* `t ∈ exits`   iff `t ∉ sub` and some block of `sub` has `t` among its targets.

The model passes both lists through `sortNames (dedup ·)`; the theorems here speak of membership only.

Of `find_headers_and_entries` (`headersEntries`) only the direct arm has a theorem,
`headersEntries_spec_direct`; the arm that falls back on `find_head` and the parent region has none.
-/
namespace Scfg.C13
open Scfg.Model

/-- The body of the `foldlM` in `exitingExits`, word for word, under a name so that `foldlM_mem` can be
    applied to it; `exitingExits_spec` relies on the two being equal by `rfl`. -/
def exStep (H : Hier) (c : Name) (sub : List Name) (acc : List Name × List Name) (n : Name) :
    M (List Name × List Name) := do
  let b ← getIn "find_exiting_and_exits" H c n
  let out := b.jt.filter fun t => !mem sub t
  let exiting := if !out.isEmpty || b.jt.isEmpty then acc.1 ++ [n] else acc.1
  pure (exiting, acc.2 ++ out)

theorem exStep_mem {H : Hier} {c a : Name} {sub : List Name} {acc acc' : List Name × List Name}
    (h : exStep H c sub acc a = .ok acc') :
    (∀ n, n ∈ acc'.1 ↔ n ∈ acc.1 ∨
      n = a ∧ ∃ b, H.getIn? c a = some b ∧ (b.jt = [] ∨ ∃ t ∈ b.jt, t ∉ sub)) ∧
    (∀ t, t ∈ acc'.2 ↔ t ∈ acc.2 ∨ t ∉ sub ∧ ∃ b, H.getIn? c a = some b ∧ t ∈ b.jt) := by
  obtain ⟨b, hb, h⟩ := bind_eq_ok h
  rw [getIn_eq_ok.mp hb]
  cases h
  simp only [Option.some.injEq, exists_eq_left']
  constructor
  · intro n
    have hC : (!(b.jt.filter fun t => !mem sub t).isEmpty || b.jt.isEmpty) = true ↔
        (b.jt = [] ∨ ∃ t ∈ b.jt, t ∉ sub) := by
      simp only [Bool.or_eq_true, Bool.not_eq_true', List.isEmpty_iff,
        List.isEmpty_eq_false_iff_exists_mem, List.mem_filter, mem_eq_false_iff, or_comm]
    split
    · next hc => rw [List.mem_append, List.mem_singleton, and_iff_left (hC.mp hc)]
    · next hc => exact ⟨Or.inl, fun h => h.resolve_right fun h => hc (hC.mpr h.2)⟩
  · intro t
    rw [List.mem_append, List.mem_filter, Bool.not_eq_true', mem_eq_false_iff, and_comm]

/-- **`find_exiting_and_exits` is its specification**, for every hierarchy, container and subset. -/
theorem exitingExits_spec (H : Hier) (c : Name) (sub : List Name) (ex xs : List Name)
    (h : exitingExits H c sub = .ok (ex, xs)) :
    (∀ n, n ∈ ex ↔ n ∈ sub ∧ ∃ b, H.getIn? c n = some b ∧ (b.jt = [] ∨ ∃ t ∈ b.jt, t ∉ sub)) ∧
    (∀ t, t ∈ xs ↔ t ∉ sub ∧ ∃ n ∈ sub, ∃ b, H.getIn? c n = some b ∧ t ∈ b.jt) := by
  obtain ⟨acc, hacc, h⟩ := bind_eq_ok (x := sub.foldlM (exStep H c sub) ([], [])) h
  cases h
  have h1 := foldlM_mem (g := exStep H c sub) (m := Prod.fst) (fun _ _ _ h => (exStep_mem h).1) hacc
  have h2 := foldlM_mem (g := exStep H c sub) (m := Prod.snd) (fun _ _ _ h => (exStep_mem h).2) hacc
  constructor
  · intro n
    rw [mem_sortNames, mem_dedup, h1 n, or_iff_right List.not_mem_nil]
    constructor
    · rintro ⟨_, ha, rfl, q⟩
      exact ⟨ha, q⟩
    · rintro ⟨ha, q⟩
      exact ⟨n, ha, rfl, q⟩
  · intro t
    rw [mem_sortNames, mem_dedup, h2 t, or_iff_right List.not_mem_nil]
    constructor
    · rintro ⟨a, ha, hs, q⟩
      exact ⟨hs, a, ha, q⟩
    · rintro ⟨hs, a, ha, q⟩
      exact ⟨a, ha, hs, q⟩

/-! ## `find_headers_and_entries`, the direct case (some outside block names a block of `sub`) -/

/-- **Headers and entries of a subset**: when some block outside `sub` names a block of `sub`,
    the headers are exactly the blocks of `sub` named from outside and the entries exactly the
    outside blocks that name a block of `sub` (declared back edges count, as in the code). -/
theorem headersEntries_spec_direct (H : Hier) (f : Nat) (c : Name) (sub hs es : List Name)
    (h : headersEntries H (f + 1) c sub = .ok (hs, es))
    (hex : ∃ o ∈ H.level c, o.name ∉ sub ∧ ∃ t ∈ o.jts, t ∈ sub) :
    (∀ x, x ∈ hs ↔ x ∈ sub ∧ ∃ o ∈ H.level c, o.name ∉ sub ∧ x ∈ o.jts) ∧
    (∀ e, e ∈ es ↔ ∃ o ∈ H.level c, o.name = e ∧ e ∉ sub ∧ ∃ t ∈ o.jts, t ∈ sub) := by
  have hmemh : ∀ x, x ∈ dedup (((H.level c).filter fun b => !mem sub b.name).foldl
      (fun acc o => acc ++ o.jts.filter (mem sub)) []) ↔
      x ∈ sub ∧ ∃ o ∈ H.level c, o.name ∉ sub ∧ x ∈ o.jts := by
    intro x
    rw [mem_dedup, ← List.flatMap_eq_foldl]
    simp only [List.mem_flatMap, List.mem_filter, Bool.not_eq_true', mem_eq_false_iff, mem_iff]
    constructor
    · rintro ⟨o, ⟨ho, hn⟩, h1, h2⟩
      exact ⟨h2, o, ho, hn, h1⟩
    · rintro ⟨h2, o, ho, hn, h1⟩
      exact ⟨o, ⟨ho, hn⟩, h1, h2⟩
  -- the header list is not empty, so the model answers at once
  obtain ⟨o, ho, hn, t, ht, hts⟩ := hex
  have hne := List.isEmpty_eq_false_iff_exists_mem.mpr ⟨t, (hmemh t).mpr ⟨hts, o, ho, hn, ht⟩⟩
  unfold headersEntries at h
  simp only [hne, Bool.not_false, if_true] at h
  cases h
  refine ⟨fun x => by rw [mem_sortNames, hmemh x], fun e => ?_⟩
  simp only [mem_sortNames, List.mem_map, List.mem_filter, List.any_eq_true, Bool.not_eq_true',
    mem_eq_false_iff, mem_iff]
  constructor
  · rintro ⟨o, ⟨⟨ho, hn⟩, ht⟩, rfl⟩
    exact ⟨o, ho, rfl, hn, ht⟩
  · rintro ⟨o, ho, rfl, hn, ht⟩
    exact ⟨o, ⟨⟨ho, hn⟩, ht⟩, rfl⟩

/-! Non-vacuity: the loop `1 → 2 → 1` with entry `0 → 1` and exit `2 → 3`. -/
def subDemo : Hier := [
  { cont := "m", name := "0", jts := ["1"] }, { cont := "m", name := "1", jts := ["2"] },
  { cont := "m", name := "2", jts := ["1", "3"] }, { cont := "m", name := "3" }]

example : (exitingExits subDemo "m" ["1", "2"]).toOption = some (["2"], ["3"]) := by decide +kernel
example : (headersEntries subDemo 3 "m" ["1", "2"]).toOption = some (["1"], ["0"]) := by decide +kernel

end Scfg.C13
