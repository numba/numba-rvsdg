import Scfg.Model.Reserve
import Scfg.Lemmas.List
/-!
# C18 — generated names are fresh

* `requests_fresh`: for **any** sequence of requests (any interleaving of block / region /
  variable requests, any kinds), the `(kind, index)` pairs handed out are pairwise distinct and
  lie at or above the counters the generator started with — so they also differ from
  everything handed out earlier by the same generator (a graph and its extracted sub-graphs
  share one generator by reference).
* `render_inj`: the strings are distinct as well, provided the table of prefixes the kinds in
  use give rise to passes the decidable check `prefixesOK` (no prefix continues another one
  with a digit) — the check is evaluated on the kinds found in the source on every run.
-/
namespace Scfg.C18
open Scfg.Model

def ctr (ng : NameGen) (k : String) : Nat :=
  match ng.find? (·.1 == k) with
  | some p => p.2
  | none => 0

/-- Run a request sequence; record kind and index of every name handed out. -/
def runIdx : NameGen → List Req → List (String × Nat)
  | _, [] => []
  | ng, r :: rs => (r.2, (ng.next r.2).1) :: runIdx (ng.next r.2).2 rs

/-- `ctr` is the model's `NameGen.ctrOf` written a second time. The proofs below and in `C18Reserve` rely on
    this being `rfl`: a lemma about one closes a goal about the other without a rewrite. -/
theorem ctrOf_eq_ctr (ng : NameGen) (k : String) : ng.ctrOf k = ctr ng k := rfl

theorem ctrOf_setCtr (ng : NameGen) (k k' : String) (v : Nat) :
    (ng.setCtr k v).ctrOf k' = if k' = k then v else ng.ctrOf k' := by
  unfold NameGen.ctrOf
  rw [show ng.setCtr k v = dictSet (·.1 == k) (k, v) ng from rfl, find?_dictSet_key]
  by_cases h : k' = k
  · rw [if_pos h, if_pos h]
  · rw [if_neg h, if_neg h]

theorem ctrOf_le_setCtr {ng : NameGen} {k : String} {v : Nat} (h : ng.ctrOf k ≤ v) (k' : String) :
    ng.ctrOf k' ≤ (ng.setCtr k v).ctrOf k' := by
  rw [ctrOf_setCtr]
  split
  · next hk => exact hk ▸ h
  · exact Nat.le_refl _

theorem next_eq (ng : NameGen) (k : String) :
    ng.next k = (ng.ctrOf k, ng.setCtr k (ng.ctrOf k + 1)) := by
  unfold NameGen.next NameGen.ctrOf NameGen.setCtr
  rw [← List.isSome_find?]
  cases ng.find? (·.1 == k) <;> rfl

theorem next_fst (ng : NameGen) (k : String) : (ng.next k).1 = ctr ng k := by
  rw [next_eq]; rfl

theorem ctr_next (ng : NameGen) (k k' : String) :
    ctr (ng.next k).2 k' = if k' = k then ctr ng k + 1 else ctr ng k' := by
  rw [next_eq]; exact ctrOf_setCtr ng k k' _

theorem ctr_le_next (ng : NameGen) (k k' : String) : ctr ng k' ≤ ctr (ng.next k).2 k' := by
  rw [next_eq]; exact ctrOf_le_setCtr (Nat.le_succ _) k'

theorem request_snd (ng : NameGen) (r : Req) : (request ng r).2 = (ng.next r.2).2 := by
  unfold request
  cases r.1 <;> rfl

theorem runIdx_ge (ng : NameGen) (rs : List Req) :
    ∀ p ∈ runIdx ng rs, ctr ng p.1 ≤ p.2 := by
  induction rs generalizing ng with
  | nil => intro p hp; cases hp
  | cons r rs ih =>
    intro p hp
    rcases List.mem_cons.1 hp with rfl | h
    · exact Nat.le_of_eq (next_fst ng r.2).symm
    · exact Nat.le_trans (ctr_le_next ng r.2 p.1) (ih _ p h)

/-- **Freshness, structurally.** For any request sequence, from any generator state, no
    `(kind, index)` pair is handed out twice. -/
theorem requests_fresh (ng : NameGen) (rs : List Req) : (runIdx ng rs).Nodup := by
  induction rs generalizing ng with
  | nil => exact List.nodup_nil
  | cons r rs ih =>
    refine List.nodup_cons.2 ⟨fun hmem => ?_, ih _⟩
    have := runIdx_ge _ rs _ hmem
    rw [ctr_next, if_pos rfl, next_fst] at this
    exact Nat.lt_irrefl _ this

/-- The characters of the name the model (and the code) renders for request `r`, index `i`. -/
def renderL (r : Req) (i : Nat) : List Char := pre r.1 r.2 ++ Nat.toDigits 10 i ++ suf r.1

theorem request_toList (ng : NameGen) (r : Req) :
    (request ng r).1.toList = renderL r (ctr ng r.2) := by
  rw [← next_fst]
  obtain ⟨ns, k⟩ := r
  cases ns
  · show (ng.newBlockName k).1.toList =
      (k.toList ++ "_block_".toList) ++ Nat.toDigits 10 (ng.next k).1 ++ []
    simp only [NameGen.newBlockName, String.toList_append, Nat.toString_eq_ofList_toDigits,
      String.toList_ofList, List.append_nil]
  · show (ng.newRegionName k).1.toList =
      (k.toList ++ "_region_".toList) ++ Nat.toDigits 10 (ng.next k).1 ++ []
    simp only [NameGen.newRegionName, String.toList_append, Nat.toString_eq_ofList_toDigits,
      String.toList_ofList, List.append_nil]
  · show (ng.newVarName k).1.toList =
      ("__scfg_".toList ++ k.toList ++ "_var_".toList) ++ Nat.toDigits 10 (ng.next k).1 ++ "__".toList
    simp only [NameGen.newVarName, String.toList_append, Nat.toString_eq_ofList_toDigits,
      String.toList_ofList]

theorem toDigits_inj {i j : Nat} (h : Nat.toDigits 10 i = Nat.toDigits 10 j) : i = j := by
  have hi := Nat.ofDigitChars_toDigits (b := 10) (n := i) (by decide) (by decide)
  have hj := Nat.ofDigitChars_toDigits (b := 10) (n := j) (by decide) (by decide)
  rw [h] at hi
  exact hi.symm.trans hj

theorem isDigit_toDigits (i : Nat) : ∀ c ∈ Nat.toDigits 10 i, c.isDigit = true :=
  fun _ h => Nat.isDigit_of_mem_toDigits (by decide) (by decide) h

theorem digits_append_ne {ds : List Char} (hne : ds ≠ []) (hd : ∀ c ∈ ds, c.isDigit = true)
    {x t : List Char} {c : Char} (hc : c.isDigit = false) : ds ++ x ≠ c :: t := by
  cases ds with
  | nil => exact absurd rfl hne
  | cons d ds =>
    intro h
    have := hd d List.mem_cons_self
    rw [(List.cons.inj h).1, hc] at this
    cases this

/-- One conjunct of `sepOK p q` when `q` continues `p` by `a`: `a` begins with a non-digit. -/
theorem not_digit_of_sep {p a : List Char}
    (h : (!(p.isPrefixOf (p ++ a)) || match (p ++ a).drop p.length with
      | c :: _ => !c.isDigit
      | [] => false) = true) : ∃ c t, a = c :: t ∧ c.isDigit = false := by
  have hpre : p.isPrefixOf (p ++ a) = true := List.isPrefixOf_iff_prefix.2 (List.prefix_append p a)
  rw [hpre, List.drop_left] at h
  cases a with
  | nil => cases h
  | cons c t => exact ⟨c, t, rfl, by simpa using h⟩

theorem sep_ne {p q : List Char} {i j : Nat} {x y : List Char} (h : sepOK p q = true) :
    p ++ Nat.toDigits 10 i ++ x ≠ q ++ Nat.toDigits 10 j ++ y := by
  intro heq
  simp only [List.append_assoc] at heq
  simp only [sepOK, Bool.and_eq_true] at h
  -- one prefix continues the other; what it continues with begins the other side's digits
  rcases List.append_eq_append_iff.mp heq with ⟨a, rfl, hx⟩ | ⟨a, rfl, hy⟩
  · obtain ⟨c, t, rfl, hc⟩ := not_digit_of_sep h.1
    exact digits_append_ne Nat.toDigits_ne_nil (isDigit_toDigits i) hc hx
  · obtain ⟨c, t, rfl, hc⟩ := not_digit_of_sep h.2
    exact digits_append_ne Nat.toDigits_ne_nil (isDigit_toDigits j) hc hy

/-- **Freshness of the strings.** Over a request table that passes `prefixesOK`, rendering is
    injective: equal names come from equal requests with equal indices. -/
theorem render_inj (T : List Req) (hT : prefixesOK T = true) (a b : Req) (ha : a ∈ T) (hb : b ∈ T)
    (i j : Nat) (h : renderL a i = renderL b j) : a = b ∧ i = j := by
  have hab := List.all_eq_true.mp (List.all_eq_true.mp hT a ha) b hb
  rcases Bool.or_eq_true_iff.1 hab with hab | hab
  · obtain rfl : a = b := eq_of_beq hab
    unfold renderL at h
    rw [List.append_assoc, List.append_assoc] at h
    exact ⟨rfl, toDigits_inj (List.append_cancel_right (List.append_cancel_left h))⟩
  · exact absurd h (sep_ne hab)

theorem runNames_ge (rs : List Req) : ∀ (ng : NameGen), ∀ n ∈ runNames ng rs,
    ∃ r ∈ rs, ∃ i, ctr ng r.2 ≤ i ∧ n.toList = renderL r i := by
  induction rs with
  | nil => intro ng n h; cases h
  | cons q qs ih =>
    intro ng n h
    rcases List.mem_cons.1 h with rfl | h
    · exact ⟨q, List.mem_cons_self, _, Nat.le_refl _, request_toList ng q⟩
    · obtain ⟨r, hr, i, hi, hn⟩ := ih _ n h
      rw [request_snd] at hi
      exact ⟨r, List.mem_cons_of_mem _ hr, i, Nat.le_trans (ctr_le_next ng q.2 r.2) hi, hn⟩

/-- **Never clobbering an existing name.** If an existing name has the shape `renderL r i` and
    the generator's counter for `r`'s kind is already past `i` (what `NameGenerator.reserve`
    establishes for every name present when a graph object is created), then no name handed
    out later — for any request sequence over a good table — equals it. -/
theorem fresh_vs_existing (T : List Req) (hT : prefixesOK T = true) (ng : NameGen) (rs : List Req)
    (hrs : ∀ r ∈ rs, r ∈ T) (r : Req) (hr : r ∈ T) (i : Nat) (hres : i < ctr ng r.2) :
    ∀ n ∈ runNames ng rs, n.toList ≠ renderL r i := by
  intro n hn heq
  obtain ⟨q, hq, j, hj, hnj⟩ := runNames_ge rs ng n hn
  obtain ⟨rfl, rfl⟩ := render_inj T hT q r (hrs q hq) hr j i (hnj ▸ heq)
  exact Nat.lt_irrefl _ (Nat.lt_of_lt_of_le hres hj)

/-- Names handed out by one generator over any request sequence drawn from a good table are
    pairwise distinct strings: the first name's index is below the counter the later ones start from. -/
theorem names_fresh (T : List Req) (hT : prefixesOK T = true) (ng : NameGen) (rs : List Req)
    (hrs : ∀ r ∈ rs, r ∈ T) :
    (runNames ng rs).Nodup := by
  induction rs generalizing ng with
  | nil => exact List.nodup_nil
  | cons r rs ih =>
    have hrs' : ∀ r' ∈ rs, r' ∈ T := fun r' hr' => hrs r' (List.mem_cons_of_mem _ hr')
    refine List.nodup_cons.2 ⟨fun hmem => ?_, ih _ hrs'⟩
    refine fresh_vs_existing T hT _ rs hrs' r (hrs r List.mem_cons_self) (ctr ng r.2) ?_ _ hmem
      (request_toList ng r)
    rw [request_snd, ctr_next, if_pos rfl]
    exact Nat.lt_succ_self _

theorem sepOK_comm (p q : List Char) : sepOK p q = sepOK q p := Bool.and_comm _ _

/-- The check is symmetric and holds on the diagonal: it is enough to look at each unordered pair once. -/
theorem prefixesOK_of_pairwise {T : List Req}
    (h : T.Pairwise fun a b => sepOK (pre a.1 a.2) (pre b.1 b.2) = true) : prefixesOK T = true := by
  have hall := List.Pairwise.forall_of_forall_of_flip
    (R := fun a b : Req => (a == b || sepOK (pre a.1 a.2) (pre b.1 b.2)) = true)
    (fun a _ => by rw [beq_self_eq_true]; rfl)
    (h.imp fun hab => by rw [hab, Bool.or_true])
    (h.imp fun hab => by rw [flip, sepOK_comm, hab, Bool.or_true])
  exact List.all_eq_true.2 fun a ha => List.all_eq_true.2 fun b hb => hall ha hb

/-! Non-vacuity: the kinds the library uses (block kinds of `block_names.py`, region kinds and
variable kinds that appear as literals in the source) pass the check; a table with a kind that
continues another one with a digit does not. -/
def libReqs : List Req :=
  (["basic", "python_bytecode", "synth_head", "synth_branch", "synth_tail", "synth_exit",
    "synth_asign", "synth_return", "synth_exit_latch", "synth_exit_branch", "synth_fill",
    "region"].map fun k => (Ns.block, k)) ++
  (["meta", "loop", "head", "branch", "tail"].map fun k => (Ns.region, k)) ++
  (["control", "exit", "backedge"].map fun k => (Ns.var, k))
example : prefixesOK libReqs = true := prefixesOK_of_pairwise (by decide +kernel)
example : prefixesOK [(Ns.block, "a"), (Ns.block, "a_block_1")] = false := by decide +kernel

end Scfg.C18
