import Scfg.WF
/-!
# C06 — control variables are assigned before use and in range

Dynamic part: in the semantics used here a latch *consumes* its variable when it runs
(`consume := true`), so arriving at the same latch again without a new assignment is an
`unset` error; reading an unset variable, a value that is not a key of the table, or a table
entry that is not a successor are errors as well. `no_ctl_error` shows that one successful
simulation check excludes all of them on **every** path (every decision sequence is a path,
because original blocks branch freely). Static part: `tablesOK`.
-/
namespace Scfg.C06

/-- **C06, dynamic part.** If the check passes then on every path through the hierarchy —
    walked by name, for every decision sequence of any length — no branching block is ever
    reached with its variable unset (since the latch last ran), out of its table's range, or
    with a table entry that is not a successor. -/
theorem no_ctl_error (H : Hier) (htop : Name) (h : ctlOK H htop = true) :
    ∀ ds, ∀ o ∈ run (sysName H true) (initName H htop true) ds, o.isCtlErr = false := by
  simp only [ctlOK, Bool.and_eq_true] at h
  exact reachOKc_sound _ _ _ _ h.1.1

theorem no_ctl_error_region (H : Hier) (htop : Name) (h : ctlOK H htop = true) :
    ∀ ds, ∀ o ∈ run (sysRegion H true) (initRegion H htop true) ds, o.isCtlErr = false := by
  simp only [ctlOK, Bool.and_eq_true] at h
  exact reachOKc_sound _ _ _ _ h.1.2

/-- Reading an unset variable is a control error of the semantics (so the check is not
    vacuous): `synthExec` reports it with the control flag `isCtlErr` recognises. -/
theorem unset_is_ctl_error (consume : Bool) (b : Blk) (val : Val) (hb : b.kind.isBranching = true)
    (hu : val.get? b.var = none) :
    ∃ m, synthExec consume b val = .error (true, m) ∧ (Obs.err true m).isCtlErr = true := by
  refine ⟨s!"ctl:unset {b.name} {b.var}", ?_, rfl⟩
  simp [synthExec, hb, hu]

/-- …and so is a value that is not a key of the block's table. -/
theorem out_of_range_is_ctl_error (consume : Bool) (b : Blk) (val : Val) (x : Int)
    (hb : b.kind.isBranching = true) (hv : val.get? b.var = some x)
    (hk : b.tbl.find? (fun p => p.1 == x) = none) :
    ∃ m, synthExec consume b val = .error (true, m) := by
  refine ⟨s!"ctl:not-a-key {b.name} {b.var}={x}", ?_⟩
  simp [synthExec, hb, hv, hk]

theorem tableOK_iff (b : Blk) : tableOK b = true ↔
    (∀ p ∈ b.tbl, p.2 ∈ b.jts) ∧ (∀ t ∈ b.jts, ∃ p ∈ b.tbl, p.2 = t) ∧ ∀ t ∈ b.bes, ∃ p ∈ b.tbl, p.2 = t := by
  simp only [tableOK, Bool.and_eq_true, List.all_eq_true, List.any_eq_true, List.contains_iff_mem, beq_iff_eq,
    and_assoc]

/-- **C06, static part.** Every table entry names one of the block's own successors and every
    successor (jump target or declared back edge) is named by at least one entry. -/
theorem tables_sound (H : Hier) (h : tablesOK H = true) :
    ∀ b ∈ H, b.kind.isBranching = true →
      (∀ p ∈ b.tbl, p.2 ∈ b.jts) ∧ (∀ t ∈ b.jts ++ b.bes, ∃ p ∈ b.tbl, p.2 = t) := by
  intro b hb hk
  have := List.all_eq_true.mp h b hb
  rw [hk] at this
  obtain ⟨h1, h2, h3⟩ := (tableOK_iff b).mp this
  exact ⟨h1, fun t ht => (List.mem_append.mp ht).elim (h2 t) (h3 t)⟩

/-- **After every renaming.** If an edit passes `tablesPreserved`, every branching block that was
    present before with a good table still has a good table. -/
theorem tablesPreserved_sound (before after : Hier) (h : tablesPreserved before after = true) :
    ∀ a ∈ after, a.kind.isBranching = true →
      ∀ b, before.find? (fun b => b.cont == a.cont && b.name == a.name) = some b →
        tableOK b = true → tableOK a = true := by
  intro a ha hk b hb hgood
  have := List.all_eq_true.mp h a ha
  simp only [hk, Bool.not_true, Bool.false_or, hb, hgood] at this
  simpa using this

/-! Non-vacuity: a latch, run with its variable unset, set, and out of range. -/
def exLatch : Blk where
  name := "l"
  kind := .synthLatch
  jts := ["x", "h"]
  bes := ["h"]
  var := "v"
  tbl := [(0, "h"), (1, "x")]
def okPart : Except (Bool × String) (Val × Option Nat) → Option (Val × Option Nat)
  | .error _ => none
  | .ok r => some r
def errPart : Except (Bool × String) (Val × Option Nat) → Option String
  | .error e => some e.2
  | .ok _ => none
example : errPart (synthExec true exLatch []) = some "ctl:unset l v" := by decide +kernel
example : okPart (synthExec true exLatch [("v", 0)]) = some ([], some 1) := by decide +kernel
example : okPart (synthExec false exLatch [("v", 0)]) = some ([("v", 0)], some 1) := by decide +kernel
example : okPart (synthExec true exLatch [("v", 7)]) = none := by decide +kernel

end Scfg.C06
