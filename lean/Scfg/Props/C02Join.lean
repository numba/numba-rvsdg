import Scfg.Props.C14Join
/-!
# C02, first stage — closing the graph never raises (model, a priori)

`joinReturns_total`: for **every** hierarchy whose blocks without successor in the container are
distinct plain blocks none of which carries the fresh name, the model of `join_returns` answers
(no `KeyError` from the pops, no assertion from the table maintenance). Flat inputs of original
blocks with unique names satisfy the hypothesis (`FlatInput.exits`, Props/C01Join.lean).
-/
namespace Scfg.C02
open Scfg.Model Scfg.C14

theorem joinReturns_total (st : St) (c : Name)
    (hnd : (exitsOf st.H c).Nodup)
    (hplain : ∀ p ∈ exitsOf st.H c, ∃ b, st.H.getIn? c p = some b ∧ b.isRegion = false ∧
      b.kind.isBranching = false)
    (hfresh : ∀ p ∈ exitsOf st.H c, p ≠ (st.ng.newBlockName "synth_return").1) :
    ∃ st', joinReturns st c = .ok st' :=
  let ⟨st', h, _⟩ := joinReturns_plain st c hnd hplain hfresh
  ⟨st', h⟩

end Scfg.C02
