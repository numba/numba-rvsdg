import Scfg.Lemmas.List
/-!
# C12 — results are deterministic across processes and hash seeds

The model is a pure function, so determinism *of the model* is reflexivity; the content is that
the model may ignore the iteration order of Python `set`s. Every place where the code turns a
set into a sequence goes through `sorted(...)` (audited on every run by the translator, see
`harness/props/c12.py`); `sortNames_perm` is the theorem that makes that sound: sorting any two
enumerations of the same set gives the same list. The remaining order-exposing uses (singleton
extraction, commutative accumulation, fix-point worklists) are listed with their
justification in the audit table and exercised by the multi-seed runs; for the dominator work list
the justification is a theorem, `doms_order_free` (Props/C12Doms.lean).
-/
namespace Scfg.C12
open Scfg.Model

abbrev Sorted (xs : List Name) : Prop := xs.Pairwise (· ≤ ·)

theorem insertSorted_sorted (x : Name) (ys : List Name) (h : Sorted ys) :
    Sorted (insertSorted x ys) := by
  fun_induction insertSorted x ys with
  | case1 => exact List.pairwise_singleton _ _
  | case2 y ys hle => -- `x ≤ y`: `x` goes in front
    refine List.pairwise_cons.mpr ⟨fun z hz => ?_, h⟩
    rcases List.mem_cons.mp hz with rfl | e
    · exact hle
    · exact String.le_trans hle (List.rel_of_pairwise_cons h e)
  | case3 y ys hnle ih => -- `y < x`: `x` goes somewhere behind `y`
    obtain ⟨hy, hys⟩ := List.pairwise_cons.mp h
    refine List.pairwise_cons.mpr ⟨fun z hz => ?_, ih hys⟩
    rcases List.mem_cons.mp ((insertSorted_perm x ys).mem_iff.mp hz) with rfl | e
    · exact (String.le_total z y).resolve_left hnle
    · exact hy z e

theorem sortNames_sorted (xs : List Name) : Sorted (sortNames xs) := by
  induction xs with
  | nil => exact .nil
  | cons x xs ih => exact insertSorted_sorted x _ ih

theorem sorted_perm_eq : ∀ (xs ys : List Name), Sorted xs → Sorted ys → xs.Perm ys → xs = ys :=
  fun _ _ hx hy h => h.eq_of_pairwise (fun _ _ _ _ => String.le_antisymm) hx hy

/-- **`sorted()` erases iteration order.** Sorting two enumerations of the same collection —
    in whatever order a hash seed made the set iterate — gives the same list. -/
theorem sortNames_perm (xs ys : List Name) (h : xs.Perm ys) : sortNames xs = sortNames ys :=
  sorted_perm_eq _ _ (sortNames_sorted xs) (sortNames_sorted ys)
    ((sortNames_perm_self xs).trans (h.trans (sortNames_perm_self ys).symm))

/-- Length and membership — the only other things the code asks of some sets — are order-free. -/
theorem length_mem_perm (xs ys : List Name) (h : xs.Perm ys) :
    xs.length = ys.length ∧ ∀ x, x ∈ xs ↔ x ∈ ys :=
  ⟨h.length_eq, fun _ => h.mem_iff⟩

/-- "The element when there is exactly one" is order-free as well. -/
theorem singleton_perm (xs ys : List Name) (h : xs.Perm ys) (a : Name) (hx : xs = [a]) : ys = [a] := by
  subst hx
  exact List.perm_singleton.mp h.symm

example : sortNames ["c", "a", "b"] = sortNames ["b", "c", "a"] := by decide +kernel

end Scfg.C12
