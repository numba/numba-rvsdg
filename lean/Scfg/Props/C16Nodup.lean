import Scfg.Props.C16Iter
/-!
# C16 — `SCFG.__iter__` yields no name twice (every hierarchy with unique names, every depth)

`iterAll_nodup`: whenever the model of the breadth-first hierarchy iterator answers on a hierarchy
whose names are unique *as far as the iterator can see* (`UniqueNames`: a member of a level is not
also covered below a region of that level, and two different regions of one level cover disjoint
sets), the yielded list has no duplicates — at every nesting depth, for every fuel.
Together with `iterAll_exact` this makes the yielded list a duplicate-free enumeration of `Covered`.
-/
namespace Scfg.C16
open Scfg.Model

/-- uniqueness of names, stated on what the iterator covers -/
structure UniqueNames (H : Hier) : Prop where
  levelNotBelow : ∀ c r b x, H.getIn? c r = some b → b.isRegion = true →
    Covered H b.name x → H.getIn? c x = none
  belowDisjoint : ∀ c r1 r2 b1 b2 x, H.getIn? c r1 = some b1 → H.getIn? c r2 = some b2 →
    b1.isRegion = true → b2.isRegion = true →
    Covered H b1.name x → Covered H b2.name x → r1 = r2

/-- **`SCFG.__iter__` yields nothing twice** — for every hierarchy with unique names, every
    container and every nesting depth, whenever the model answers. -/
theorem iterAll_nodup (H : Hier) (hU : UniqueNames H) : ∀ (f : Nat) (c : Name) (out : List Name),
    iterAll H f c = .ok out → out.Nodup := by
  intro f
  induction f with
  | zero => intro c out h; rw [iterAll] at h; cases h
  | succ f ih =>
    intro c out h
    obtain ⟨_, vis, _, hnd, _, rfl, hvis, _⟩ := iterAll_run h
    -- what a member yields after itself: nothing twice, and only names covered below it
    have hys : ∀ {b ts ys}, emitIter (iterAll H f) b = .ok (ts, ys) →
        ys.Nodup ∧ ∀ y ∈ ys, b.isRegion = true ∧ Covered H b.name y := by
      intro b ts ys he
      cases hreg : b.isRegion with
      | false => rw [(emitIter_ok he).2.2 hreg]; exact ⟨List.nodup_nil, fun y hy => nomatch hy⟩
      | true =>
        have hin := (emitIter_ok he).2.1 hreg
        exact ⟨ih _ _ hin, fun y hy => ⟨rfl, (iterAll_exact H f _ _ hin).2 y hy⟩⟩
    have hlvl : ∀ {n r b br}, H.getIn? c n = some b → H.getIn? c r = some br →
        br.isRegion = true → ¬ Covered H br.name n := fun hb hr hreg hcov => by
      rw [hU.levelNotBelow c _ _ _ hr hreg hcov] at hb
      cases hb
    -- the names a visit yields are kept apart by `UniqueNames`
    have hkeys : vis.Pairwise fun t u => t.1 ≠ u.1 := List.pairwise_map.mp hnd
    refine List.pairwise_flatMap.mpr ⟨fun t ht => ?_, hkeys.imp_of_mem fun {t u} ht hu hne x hx y hy e => ?_⟩
    · rcases (hvis t ht).2 with ⟨_, _, e⟩ | ⟨b, ys, hb, he, e⟩
      · rw [e]; exact List.nodup_nil
      · rw [e]
        refine List.nodup_cons.mpr ⟨fun hn => ?_, (hys he).1⟩
        obtain ⟨hreg, hcov⟩ := (hys he).2 _ hn
        exact hlvl hb hb hreg hcov
    · subst e
      obtain ⟨b1, ys1, hb1, he1, e1⟩ := (hvis t ht).2.yields hx
      obtain ⟨b2, ys2, hb2, he2, e2⟩ := (hvis u hu).2.yields hy
      rw [e1] at hx
      rw [e2] at hy
      rcases List.mem_cons.mp hx with rfl | h1 <;> rcases List.mem_cons.mp hy with e | h2
      · exact hne e
      · obtain ⟨hreg, hcov⟩ := (hys he2).2 _ h2
        exact hlvl hb1 hb2 hreg hcov
      · subst e
        obtain ⟨hreg, hcov⟩ := (hys he1).2 _ h1
        exact hlvl hb2 hb1 hreg hcov
      · obtain ⟨hreg1, hcov1⟩ := (hys he1).2 x h1
        obtain ⟨hreg2, hcov2⟩ := (hys he2).2 x h2
        exact hne (hU.belowDisjoint c _ _ b1 b2 x hb1 hb2 hreg1 hreg2 hcov1 hcov2)

/-- with `iterAll_exact`: the yielded list is a duplicate-free enumeration of `Covered` -/
theorem iterAll_enumerates (H : Hier) (hU : UniqueNames H) (f : Nat) (c : Name) (out : List Name)
    (h : iterAll H f c = .ok out) :
    out.Nodup ∧ ∀ x, x ∈ out ↔ Covered H c x :=
  ⟨iterAll_nodup H hU f c out h,
   fun x => ⟨(iterAll_exact H f c out h).2 x, (iterAll_exact H f c out h).1 x⟩⟩

end Scfg.C16
