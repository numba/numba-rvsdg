import Scfg.Py.Micro
/-!
# C08 / C07 — semantic equivalence of Python-subset programs, decided by simulation

`pySimOK a b params` runs the verified certificate checker on the reference semantics of two
micro-programs (the function itself, the front end's CFG, the regenerated function).
`pySim_sound`: a `true` answer means equal observation traces — every atom evaluation in order
with the reaching definitions it reads, every decision point, the returned value, and
termination — for **all** decision sequences of any length.
-/
namespace Scfg.C08
open Scfg.Py

def ObsEquiv (a b : MProg) (params : List Name) : Prop :=
  ∀ ds : List Nat,
    run (sysOf a) (initOfParams a params) ds = run (sysOf b) (initOfParams b params) ds

theorem pySim_sound (a b : MProg) (params : List Name) (h : pySimOK a b params = true) :
    ObsEquiv a b params :=
  simOKc_sound _ _ _ _ _ h

/-- Equivalence is symmetric and transitive, so the three-way comparison
    source ≈ CFG ≈ regenerated source composes. -/
theorem ObsEquiv.symm {a b : MProg} {ps : List Name} (h : ObsEquiv a b ps) : ObsEquiv b a ps :=
  fun ds => (h ds).symm

theorem ObsEquiv.trans {a b c : MProg} {ps : List Name} (h1 : ObsEquiv a b ps)
    (h2 : ObsEquiv b c ps) : ObsEquiv a c ps :=
  fun ds => (h1 ds).trans (h2 ds)

/-- A decision point offers exactly two continuations; a stopped program none. -/
theorem sysOf_arity (p : MProg) (st : MSt) :
    ((sysOf p).obs st).arity = if st.done.isSome then 0 else 2 := by
  cases h : st.done <;> simp [sysOf, h, Obs.arity]

/-! Non-vacuity (kernel evaluation): `x and y` evaluated natively vs. through a temporary and
a test, as the front end lowers it; and a program that evaluates the second operand eagerly is
rejected. -/
def progA : List S := [.ret (.boolop true [.leaf 1 ["x"], .leaf 2 ["y"]])]
def progB : List S := [
  .assign "t" (.leaf 1 ["x"]),
  .ifS (.var "t") [.assign "t" (.leaf 2 ["y"])] [],
  .ret (.var "t")]
def progBad : List S := [
  .assign "t" (.leaf 1 ["x"]),
  .assign "u" (.leaf 2 ["y"]),
  .ifS (.var "t") [.assign "t" (.var "u")] [],
  .ret (.var "t")]

example : simOK (sysOf (compileFn progA)) (sysOf (compileFn progB))
    (initOfParams (compileFn progA) ["x", "y"]) (initOfParams (compileFn progB) ["x", "y"]) 64 = true := by
  decide +kernel
example : simOK (sysOf (compileFn progA)) (sysOf (compileFn progBad))
    (initOfParams (compileFn progA) ["x", "y"]) (initOfParams (compileFn progBad) ["x", "y"]) 64 = false := by
  decide +kernel

end Scfg.C08
