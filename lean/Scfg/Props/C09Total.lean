import Scfg.Props.C09
import Scfg.Lemmas.List
/-!
# C09 — "building the graph never fails", a priori for the model

`buildBlocks_total`: for **every** instruction stream and **every** opcode classification, if the
last instruction of the stream is one the tables classify (a conditional jump, an unconditional
jump or a return — code objects of the domain end in `RETURN_*` or `JUMP_BACKWARD`), the model of
`FlowInfo.from_bytecode` followed by `build_basicblocks` answers: every name lookup it performs
(begin of a block, every recorded jump target, the fall-through successor) finds its block.
Whether the tables classify the opcodes of the running interpreter correctly is the regenerated
table check of the harness; this theorem needs no assumption about that.
-/
namespace Scfg.C09
open Scfg.Model

/-- invariant of the instruction loop: every recorded jump target is a block start -/
def TargetsIn (fi : FlowInfo) : Prop := ∀ p ∈ fi.jumpInsts, ∀ t ∈ p.2, t ∈ fi.blockOffsets

theorem addJ_targetsIn (fi : FlowInfo) (o : Nat) (ts : List Nat) (h : TargetsIn fi) : TargetsIn (addJ o fi ts) := by
  intro p hp t ht
  show t ∈ ts.foldl addOff fi.blockOffsets
  rw [mem_foldl_addOff]
  rcases mem_dictSet (s := fun q : Nat × List Nat => q.1 == o) (v := (o, ts)) (l := fi.jumpInsts) hp with e | e
  · exact Or.inl (h p e t ht)
  · subst e; exact Or.inr ht

theorem fromBytecode_targetsIn (T : OpTables) (is : List Ins) : TargetsIn (fromBytecode T is) :=
  fromBytecode_inv TargetsIn (fun _ hp => nomatch hp)
    (fun _ _ h p hp t ht => mem_addOff.mpr (Or.inl (h p hp t ht))) addJ_targetsIn (fun _ _ h => h) T is

theorem fromBytecode_last (T : OpTables) (init : List Ins) (last : Ins) (hc : classified T last = true) :
    let fi := fromBytecode T (init ++ [last])
    ∃ p, fi.jumpInsts.find? (·.1 == fi.lastOffset) = some p := by
  simp only [fromBytecode_eq, List.foldl_append, List.foldl_cons, List.foldl_nil]
  rcases classify_cases T (markStart (init.foldl (stepIns T) {}) last) last with ⟨h, _⟩ | ⟨ts, h⟩
  · rw [hc] at h; cases h
  · show ∃ p, (classify T _ last).jumpInsts.find? (·.1 == last.off) = some p
    rw [h]
    exact ⟨_, (find?_dictSet_key _ last.off last.off ts).trans (if_pos rfl)⟩

theorem buildBlocks_ok (fi : FlowInfo) (hin : TargetsIn fi)
    (hkey : ∃ p, fi.jumpInsts.find? (·.1 == fi.lastOffset) = some p) : ∃ bs, buildBlocks fi = .ok bs := by
  unfold buildBlocks
  extract_lets offsets names nameOf
  -- the name table knows every block offset
  have hname : ∀ o ∈ offsets, ∃ n, nameOf o = .ok n := by
    intro o ho
    have hz : o ∈ ((List.range offsets.length).zip offsets).map (·.2) := by
      rw [List.map_snd_zip (by simp)]; exact ho
    obtain ⟨q, hq, rfl⟩ := List.mem_map.mp hz
    cases hf : names.find? (·.1 == q.2) with
    | some p => exact ⟨p.2, by simp only [nameOf, hf]; rfl⟩
    | none =>
      have := List.find?_eq_none.1 hf _ (List.mem_map.mpr ⟨q, hq, rfl⟩)
      simp at this
  refine mapM_ok fun be hbe => ?_
  obtain ⟨h1, h2⟩ := List.of_mem_zip (blockRanges_eq fi ▸ hbe)
  refine bind_ok (hname be.1 h1) fun name => ?_
  dsimp only
  cases hf : fi.jumpInsts.find? (·.1 == be.2 - 2) with
  | some p =>
    -- a recorded jump: its targets are block starts
    exact bind_ok (mapM_ok fun t ht =>
      hname t (mem_sortNat.mpr (hin p (List.mem_of_find?_eq_some hf) t ht))) fun _ => ⟨_, rfl⟩
  | none =>
    -- fall-through: the next block start, which exists because the last instruction is recorded
    refine bind_ok (hname be.2 ?_) fun _ => ⟨_, rfl⟩
    rcases List.mem_append.mp h2 with e | e
    · exact List.mem_of_mem_drop e
    · rw [List.mem_singleton.1 e, Nat.add_sub_cancel] at hf
      obtain ⟨p, hp⟩ := hkey
      cases hp.symm.trans hf

/-- **Building the graph never fails** (model): every stream whose last instruction is classified
    by the tables yields a graph. -/
theorem buildBlocks_total (T : OpTables) (init : List Ins) (last : Ins) (hc : classified T last = true) :
    ∃ bs, buildBlocks (fromBytecode T (init ++ [last])) = .ok bs :=
  buildBlocks_ok _ (fromBytecode_targetsIn T _) (fromBytecode_last T init last hc)

/-! Non-vacuity: a two-instruction stream (`LOAD; RETURN_VALUE`) is classified at its end. -/
example : classified { cond := ["POP_JUMP_IF_FALSE"], uncond := ["JUMP_FORWARD"], term := ["RETURN_VALUE"] }
    { off := 2, op := "RETURN_VALUE", arg := 0, isTarget := false } = true := by decide +kernel

end Scfg.C09
