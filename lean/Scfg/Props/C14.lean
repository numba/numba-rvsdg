import Scfg.Props.C06Tables
import Scfg.Lemmas.Hier
/-!
# C14 — graph edit primitives reroute exactly the requested arcs

A-priori theorems about the model of `insert_block`'s rewiring loop (`Scfg.Model.rewire`, the
loop over the successors for one predecessor), for **all** target lists and all `S`:

* `rewire_id`       — a predecessor without an arc into `S` is left alone;
* `rewire_frame`    — the remaining successors are unchanged and keep their order;
* `rewire_rerouted` — afterwards no arc into `S` is left (needs: `new ∉ S` and distinct targets — the
                       guard the proof forces; `rewire_dup_witness` shows the code violates it otherwise);
* `rewire_new_once` — the new block is a successor exactly once iff there was an arc into `S`;
* `rewire_mem`      — what both rest on: distinct targets stay distinct, and who is a successor afterwards.

The second half reads one round of `insertBlock`'s loop over the predecessors as a function (`newTargets`,
`insertStep`, `insertBlock_eq_foldlM`, `insertStep_plain`), on which C14Join and C14Paths build.

The model is tied to the code by the correspondence run of `harness/props/c14.py`.
-/
namespace Scfg.C14
open Scfg.Model

/-- One round of the rewiring loop: a successor `s` that is not a target is skipped; otherwise the
    tuple splits at its first occurrence, which becomes `new` or, if `new` is there already, goes. -/
theorem rewire_cons (new : Name) (jt : List Name) (s : Name) (ss : List Name) :
    (s ∉ jt ∧ rewire new jt (s :: ss) = rewire new jt ss) ∨
    ∃ l r, jt = l ++ s :: r ∧
      rewire new jt (s :: ss) = rewire new (if new ∈ jt then l ++ r else l ++ new :: r) ss := by
  rw [rewire]
  split
  · next h => exact Or.inl ⟨idxOf_eq_none.mp h, rfl⟩
  · next i h =>
    obtain ⟨l, r, e, hset, herase⟩ := idxOf_split h
    refine Or.inr ⟨l, r, e, ?_⟩
    by_cases hn : new ∈ jt <;> simp [hn, hset, herase]

theorem rewire_id (new : Name) (jt S : List Name) (h : ∀ s ∈ S, s ∉ jt) :
    rewire new jt S = jt := by
  induction S with
  | nil => rfl
  | cons s ss ih =>
    rw [rewire, idxOf_eq_none.mpr (h s (by simp))]
    exact ih fun s' hs' => h s' (by simp [hs'])

theorem rewire_frame (new : Name) (keep : Name → Bool) (jt S : List Name)
    (hS : ∀ s ∈ S, keep s = false) (hn : keep new = false) :
    (rewire new jt S).filter keep = jt.filter keep := by
  induction S generalizing jt with
  | nil => rfl
  | cons s ss ih =>
    have hs : keep s = false := hS s (by simp)
    have hss : ∀ s' ∈ ss, keep s' = false := fun s' h' => hS s' (by simp [h'])
    rcases rewire_cons new jt s ss with ⟨_, e⟩ | ⟨l, r, rfl, e⟩
    · rw [e, ih jt hss]
    · rw [e, ih _ hss]
      split <;> simp [hs, hn]

theorem rewire_mem (new : Name) (jt S : List Name) (hnd : jt.Nodup) (hnS : new ∉ S) :
    (rewire new jt S).Nodup ∧
    ∀ t, t ∈ rewire new jt S ↔
      (t ∈ jt ∧ t ∉ S) ∨ (t = new ∧ (new ∈ jt ∨ ∃ s ∈ S, s ∈ jt)) := by
  induction S generalizing jt with
  | nil =>
    refine ⟨hnd, fun t => ⟨fun h => Or.inl ⟨h, List.not_mem_nil⟩, ?_⟩⟩
    rintro (⟨h, _⟩ | ⟨rfl, h | ⟨_, hs, _⟩⟩)
    · exact h
    · exact h
    · cases hs
  | cons s ss ih =>
    have hns : new ≠ s := fun e => hnS (by simp [e])
    have hnss : new ∉ ss := fun h => hnS (by simp [h])
    simp only [List.mem_cons, not_or, exists_eq_or_imp, ← and_assoc]
    rcases rewire_cons new jt s ss with ⟨hs, e⟩ | ⟨l, r, rfl, e⟩
    · have key : ∀ t, t ∈ jt ∧ ¬t = s ↔ t ∈ jt := fun t => and_iff_left_of_imp fun h e => hs (e ▸ h)
      rw [e]
      simp only [key, hs, false_or]
      exact ih jt hnd hnss
    · -- up to order the tuple is `s :: (l ++ r)`, and the next one `l ++ r` or `new :: (l ++ r)`
      obtain ⟨hsM, hM⟩ := List.nodup_cons.mp (List.perm_middle.nodup_iff.mp hnd)
      have key : ∀ t, (t = s ∨ t ∈ l ++ r) ∧ ¬t = s ↔ t ∈ l ++ r := fun t =>
        ⟨fun h => h.1.resolve_left h.2, fun h => ⟨Or.inr h, fun e => hsM (e ▸ h)⟩⟩
      rw [e]
      simp only [List.perm_middle.mem_iff, List.mem_cons, key, true_or, or_true, and_true]
      by_cases hn : new = s ∨ new ∈ l ++ r
      · rw [if_pos hn]
        obtain ⟨h1, h2⟩ := ih (l ++ r) hM hnss
        refine ⟨h1, fun t => ?_⟩
        rw [h2]
        simp only [hn.resolve_left hns, true_or, and_true]
      · rw [if_neg hn]
        obtain ⟨h1, h2⟩ := ih (l ++ new :: r)
          (List.perm_middle.nodup_iff.mpr (List.nodup_cons.mpr ⟨fun h => hn (Or.inr h), hM⟩)) hnss
        refine ⟨h1, fun t => ?_⟩
        rw [h2]
        simp only [List.perm_middle.mem_iff, List.mem_cons, true_or, and_true]
        by_cases ht : t = new <;> simp only [ht, true_or, or_true, false_or, or_false]

theorem rewire_rerouted (new : Name) (jt S : List Name) (hnd : jt.Nodup) (hnS : new ∉ S) :
    ∀ t ∈ rewire new jt S, t ∉ S := by
  intro t ht
  rcases ((rewire_mem new jt S hnd hnS).2 t).mp ht with ⟨_, h⟩ | ⟨h, _⟩
  · exact h
  · exact h ▸ hnS

theorem rewire_new_once (new : Name) (jt S : List Name) (hnd : jt.Nodup) (hnS : new ∉ S)
    (hfresh : new ∉ jt) :
    (rewire new jt S).count new = if ∃ s ∈ S, s ∈ jt then 1 else 0 := by
  obtain ⟨h1, h2⟩ := rewire_mem new jt S hnd hnS
  rw [List.Nodup.count h1]
  simp only [h2, hfresh, false_and, false_or, true_and]

/-- The guard is forced: with a duplicated arc into `S` the loop (and the code it models)
    leaves the second copy in place — recorded as a known finding. -/
theorem rewire_dup_witness : rewire "n" ["b", "b"] ["b"] = ["n", "b"] := by decide +kernel

/-- The fresh table built by `insert_block_and_control_blocks` is written through `tblSet`: a key that has
    been set is read back (the other keys: `C06.tget_set_other`). -/
theorem tblSet_get (t : List (Int × Name)) (k : Int) (v : Name) :
    ((tblSet t k v).find? (·.1 == k)).map (·.2) = some v :=
  C06.tget_set_same t k v

/-! ## Lifting to whole `insert_block` calls (model), plain predecessors -/

theorem renameInExiting_plain {H : Hier} {f : Nat} {blk : Blk} {old new : Name}
    (h : blk.isRegion = false) : renameInExiting H (f + 1) blk old new = .ok H := by
  simp [renameInExiting, h]

theorem ren_plain (new : Name) (blk : Blk) (hreg : blk.isRegion = false) :
    ∀ (ss jt : List Name) (H : Hier), insertBlock.ren new blk H jt ss = .ok H := by
  intro ss jt H
  fun_induction insertBlock.ren new blk H jt ss with
  | case1 => rfl -- no successor left
  | case2 _ _ _ _ _ ih => exact ih -- `s` is not among the targets
  | case3 H jt s ss i _ ih1 ih2 => -- `s` is a successor: the renaming does nothing, either branch goes on with `H`
    rw [renameInExiting_plain hreg]
    split
    · exact ih1 H
    · exact ih2 H

/-- what `insert_block` makes of a plain predecessor's successor tuple -/
def newTargets (new : Name) (succs : List Name) (blk : Blk) : List Name :=
  if succs.isEmpty then blk.jts ++ [new]
  else rewire new blk.jts (succs.filter fun s => !blk.bes.contains s)

/-- One iteration of `insert_block`'s loop over the predecessors. -/
def insertStep (c new : Name) (succs : List Name) (H : Hier) (p : Name) : M Hier := do
  let (blk, H1) ← popIn "insert_block" H c p
  let jt := blk.jts
  let succs' := succs.filter fun s => !blk.bes.contains s
  let H2 ← if succs.isEmpty then pure H1 else insertBlock.ren new blk H1 jt succs'
  let jt' := if succs.isEmpty then jt ++ [new] else rewire new jt succs'
  let blk' ← replaceJts blk jt'
  pure (putIn H2 blk')

theorem insertBlock_eq_foldlM (H : Hier) (c : Name) (kind : BKind) (new : Name)
    (preds succs : List Name) :
    insertBlock H c kind new preds succs =
      preds.foldlM (insertStep c new succs)
        (putIn H { cont := c, name := new, kind := kind, jts := succs }) := rfl

theorem insertStep_plain {c : Name} (new : Name) (succs : List Name) {H H1 : Hier} {p : Name} {blk : Blk}
    (hpop : popIn "insert_block" H c p = .ok (blk, H1))
    (hreg : blk.isRegion = false) (hbr : blk.kind.isBranching = false) :
    insertStep c new succs H p = .ok (putIn H1 { blk with jts := newTargets new succs blk }) := by
  have hrep : ∀ jt', replaceJts blk jt' = .ok { blk with jts := jt' } := by
    intro jt'; simp [replaceJts, hbr]
  simp only [insertStep, hpop, bind, Except.bind, pure, Except.pure, newTargets]
  cases succs.isEmpty
  · simp only [Bool.false_eq_true, if_false, ren_plain new blk hreg, hrep]
  · simp only [if_true, hrep]

/-- **`insert_block` with one plain predecessor.** The model's result is: the new block with
    successors exactly `S` is added; the predecessor is re-inserted with its successor tuple
    rewritten by `rewire` (so `rewire_frame / rewire_rerouted / rewire_new_once` describe its
    arcs), every other field untouched; nothing else changes. -/
theorem insertBlock_single (H : Hier) (c : Name) (kind : BKind) (new p : Name) (succs : List Name)
    (blk : Blk) (H1 : Hier)
    (hpop : popIn "insert_block" (putIn H { cont := c, name := new, kind := kind, jts := succs }) c p
      = .ok (blk, H1))
    (hreg : blk.isRegion = false) (hbr : blk.kind.isBranching = false) :
    insertBlock H c kind new [p] succs =
      .ok (putIn H1 { blk with jts := newTargets new succs blk }) := by
  rw [insertBlock_eq_foldlM, List.foldlM_cons, insertStep_plain new succs hpop hreg hbr]
  rfl

/-! Non-vacuity / examples (kernel evaluation of the model). -/
example : rewire "n" ["a", "x", "b"] ["b", "a"] = ["x", "n"] := by decide +kernel
example : rewire "n" ["a", "x"] ["q"] = ["a", "x"] := by decide +kernel

end Scfg.C14
