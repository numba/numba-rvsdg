import Scfg.Model.Dispatch
/-!
# C11 — unsupported source constructs are refused, never mistranslated

`transform_refuses`: for **any** dispatcher data that passes the decidable check `dispatchOK`
and **every** program (any nesting depth) built from the interpreter's statement classes, an
unsupported statement anywhere makes the model of `AST2SCFGTransformer.transform` raise
not-implemented. `dispatchOK` is evaluated on the data the translator regenerates from
`handle_ast_node` / `handle_function_def` and from the running interpreter's `ast` classes;
its offenders are replayed on the real front end.
-/
namespace Scfg.C11
open Scfg.Model

theorem dispatchOK_spec {d : DispatchData} (h : dispatchOK d = true) :
    (∀ k, d.kinds.any (·.1 == k) = true → supportedKinds.contains k = false → armOf d k = .refuse) ∧
    armOf d "If" = .ifS ∧ armOf d "While" = .whileS ∧ armOf d "For" = .forS ∧
    armOf d "FunctionDef" = .funcDef ∧ d.nestedDefRefused = true := by
  simp only [dispatchOK, Bool.and_eq_true, beq_iff_eq] at h
  obtain ⟨⟨⟨⟨⟨hall, hIf⟩, hWhile⟩, hFor⟩, hDef⟩, hNest⟩ := h
  refine ⟨fun k hk hs => ?_, hIf, hWhile, hFor, hDef, hNest⟩
  obtain ⟨p, hp, hpk⟩ := List.any_eq_true.mp hk
  have := List.all_eq_true.mp hall p hp
  rw [beq_iff_eq.mp hpk, hs] at this
  simpa using this

mutual
theorem refuses_stmt (d : DispatchData) (h : dispatchOK d = true) :
    ∀ (s : Stmt) (depth : Nat), kindsKnownStmt d s = true → hasUnsupportedStmt depth s = true →
      refusesStmt d depth s = true
  | .node k body orelse, depth => fun hkn hun => by
    -- (`hkn`, `hun` by `fun`: as patterns they make the elaborator evaluate the string tests in their types)
    simp only [kindsKnownStmt, Bool.and_eq_true] at hkn
    obtain ⟨⟨hk, hkb⟩, hko⟩ := hkn
    obtain ⟨hRef, hIf, hWhile, hFor, hDef, hNest⟩ := dispatchOK_spec h
    simp only [hasUnsupportedStmt, Bool.or_eq_true, Bool.and_eq_true] at hun
    unfold refusesStmt
    rcases hun with (hu | ⟨hob, hb⟩) | ⟨hoo, ho⟩
    · -- the statement itself: a class outside the subset, or a definition that is not outermost
      simp only [unsupportedAt, Bool.or_eq_true, Bool.not_eq_true', Bool.and_eq_true, beq_iff_eq,
        decide_eq_true_eq] at hu
      rcases hu with hs | ⟨rfl, hpos⟩
      · rw [hRef k hk hs]
      · simp [hDef, hNest, hpos]
    · -- in the body of one of the four classes that have one
      have hr := refuses_list d h body (depth + 1) hkb hb
      simp only [ownsBody, List.contains_iff_mem, List.mem_cons, List.mem_nil_iff, or_false] at hob
      rcases hob with rfl | rfl | rfl | rfl
      · simp [hDef, hr]
      · simp [hIf, hr]
      · simp [hWhile, hr]
      · simp [hFor, hr]
    · -- in the else-branch of one of the three classes that have one
      have hr := refuses_list d h orelse (depth + 1) hko ho
      simp only [ownsOrelse, List.contains_iff_mem, List.mem_cons, List.mem_nil_iff, or_false] at hoo
      rcases hoo with rfl | rfl | rfl
      · simp [hIf, hr]
      · simp [hWhile, hr]
      · simp [hFor, hr]
theorem refuses_list (d : DispatchData) (h : dispatchOK d = true) :
    ∀ (ss : List Stmt) (depth : Nat), kindsKnownList d ss = true →
      hasUnsupportedList depth ss = true → refusesList d depth ss = true
  | [], _ => fun _ hun => by simp [hasUnsupportedList] at hun
  | s :: ss, depth => fun hkn hun => by
    simp only [kindsKnownList, Bool.and_eq_true] at hkn
    simp only [hasUnsupportedList, Bool.or_eq_true] at hun
    simp only [refusesList, Bool.or_eq_true]
    rcases hun with hu | hu
    · exact Or.inl (refuses_stmt d h s depth hkn.1 hu)
    · exact Or.inr (refuses_list d h ss depth hkn.2 hu)
end

/-- **C11.** For any dispatcher data passing `dispatchOK` and every program over the
    interpreter's statement classes: if some statement — at any nesting depth, in any body or
    else-branch of the supported compound statements, or after the function — is outside the
    supported subset, the transformation raises not-implemented. -/
theorem transform_refuses (d : DispatchData) (h : dispatchOK d = true) (p : List Stmt)
    (hk : kindsKnownList d p = true) (hu : hasUnsupportedTop p = true) : refusesTop d p = true := by
  cases p with
  | nil => simp [hasUnsupportedTop] at hu
  | cons f rest =>
    simp only [kindsKnownList, Bool.and_eq_true] at hk
    simp only [hasUnsupportedTop, Bool.or_eq_true] at hu
    simp only [refusesTop, Bool.or_eq_true]
    rcases hu with hu | hu
    · exact Or.inl (refuses_stmt d h f 0 hk.1 hu)
    · exact Or.inr (refuses_list d h rest 1 hk.2 hu)

theorem ite_nil_iff (c : Bool) (s : String) : (if c = true then [] else [s]) = [] ↔ c = true := by
  cases c <;> simp

/-- `dispatchOK` holds exactly when there are no offenders (so the offender list the harness
    prints is complete). -/
theorem dispatchOK_iff_no_offenders (d : DispatchData) :
    dispatchOK d = true ↔ dispatchOffenders d = [] := by
  -- conjunct by conjunct: a condition holds iff its summand of the offender list is empty
  simp only [dispatchOK, dispatchOffenders, Bool.and_eq_true, List.append_eq_nil_iff, ite_nil_iff,
    List.map_eq_nil_iff, List.filter_eq_nil_iff, List.all_eq_true, Bool.not_eq_true', Bool.not_eq_false]

/-! Non-vacuity: data of the shape the pinned source gives (plus one unsupported class), and the
nested-definition witness for data without the refusal. -/
def exData (nested : Bool) : DispatchData where
  chain := [(["FunctionDef"], .funcDef), (["AugAssign", "Assign", "Expr", "Return"], .simple),
            (["Break", "Continue", "Pass"], .noop), (["If"], .ifS), (["While"], .whileS), (["For"], .forS)]
  fallback := .refuse
  kinds := [("FunctionDef", ["FunctionDef", "stmt"]), ("Assign", ["Assign", "stmt"]), ("If", ["If", "stmt"]),
            ("While", ["While", "stmt"]), ("For", ["For", "stmt"]), ("With", ["With", "stmt"]),
            ("Return", ["Return", "stmt"])]
  nestedDefRefused := nested
example : dispatchOK (exData true) = true := by decide +kernel
example : refusesTop (exData true)
    [.node "FunctionDef" [.node "If" [.node "Assign" [] []] [.node "While" [.node "With" [] []] []]] []]
    = true := by decide +kernel
/-- Without the refusal of nested definitions the model (like the pinned code) inlines them. -/
theorem nested_def_witness : refusesTop (exData false)
    [.node "FunctionDef" [.node "FunctionDef" [.node "Return" [] []] []] []] = false := by decide +kernel

end Scfg.C11
